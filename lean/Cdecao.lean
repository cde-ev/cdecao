import Cdecao.Engine.Account
import Cdecao.Engine.BabOpt
import Cdecao.Engine.Core
import Cdecao.Engine.Lock
import Cdecao.Engine.Final
import Cdecao.Engine.SolInv
import Cdecao.Engine.SyncTie
import Cdecao.Engine.Term
import Cdecao.Engine.Terminate
import Cdecao.Model.Cdedb
import Cdecao.Model.Cli
import Cdecao.Model.Main
import Cdecao.Model.MainConstants
import Cdecao.Model.Constants
import Cdecao.Model.Hungarian
import Cdecao.Model.HungarianI32
import Cdecao.Model.Json
import Cdecao.Model.Listing
import Cdecao.Model.Node
import Cdecao.Model.NodeS
import Cdecao.Model.Rooms
import Cdecao.Model.RoomsInput
import Cdecao.Model.Score
import Cdecao.Model.Simple
import Cdecao.Model.SyncConstants
import Cdecao.Model.Util
import Cdecao.Proofs.AssignQuality
import Cdecao.Proofs.CaobabFinite
import Cdecao.Proofs.Cols
import Cdecao.Proofs.Gate
import Cdecao.Proofs.HungBounds
import Cdecao.Proofs.HungFinal
import Cdecao.Proofs.HungI32Conv
import Cdecao.Proofs.HungProof
import Cdecao.Proofs.HungTotal
import Cdecao.Proofs.AssignList
import Cdecao.Proofs.ImportConsistent
import Cdecao.Proofs.LastIdx
import Cdecao.Proofs.NodeChildren
import Cdecao.Proofs.NodeCols
import Cdecao.Proofs.NodeDecide
import Cdecao.Proofs.NodeEng
import Cdecao.Proofs.NodeFeasible
import Cdecao.Proofs.NodeInv
import Cdecao.Proofs.NodeOpt
import Cdecao.Proofs.NodeRoom
import Cdecao.Proofs.NodeSpecAsm
import Cdecao.Proofs.NodeSq
import Cdecao.Proofs.NodeTotal
import Cdecao.Proofs.QualityProofs
import Cdecao.Proofs.ReaderCore
import Cdecao.Proofs.ReaderResult
import Cdecao.Proofs.ReaderProofs
import Cdecao.Proofs.ReaderValid
import Cdecao.Proofs.RangeFold
import Cdecao.Proofs.Relax
import Cdecao.Proofs.RoomGate
import Cdecao.Proofs.RoomsNonbinding
import Cdecao.Proofs.RoomsProofs
import Cdecao.Proofs.Score
import Cdecao.Proofs.Sel
import Cdecao.Proofs.SelComplete
import Cdecao.Proofs.SpecExec
import Cdecao.Proofs.Square
import Cdecao.Props.C01
import Cdecao.Props.C01Cde
import Cdecao.Props.C02
import Cdecao.Props.C02F1
import Cdecao.Props.C03
import Cdecao.Props.C03F11
import Cdecao.Props.C04
import Cdecao.Props.C05
import Cdecao.Props.C05E2E
import Cdecao.Props.C06
import Cdecao.Props.C07
import Cdecao.Props.C08
import Cdecao.Props.C08Assign
import Cdecao.Props.C09
import Cdecao.Props.C10
import Cdecao.Props.C11
import Cdecao.Props.C12
import Cdecao.Props.C13
import Cdecao.Props.C14
import Cdecao.Props.C15
import Cdecao.Props.C16
import Cdecao.Props.C17
import Cdecao.Props.C18
import Cdecao.Props.C19
import Cdecao.Props.C20
import Cdecao.Props.EngineTie
import Cdecao.Props.Main
import Cdecao.Props.PanicTie
import Cdecao.Props.MainE2E
import Cdecao.Props.MainC03
import Cdecao.Props.C18E2E
import Cdecao.Proofs.ScoreBounds
import Cdecao.Props.C10U32
import Cdecao.Engine.OneWorker
import Cdecao.Props.C13OneWorker
import Cdecao.Props.C13E2E
import Cdecao.Proofs.SimpleShape
import Cdecao.Proofs.RoomsInputShape
import Cdecao.Proofs.SortDesc
import Cdecao.Proofs.MainFront
import Cdecao.Props.C14Shape
import Cdecao.Reader.Spec
import Cdecao.Rooms.Possible
import Cdecao.Spec.Hard
import Cdecao.Spec.Hung
import Cdecao.Spec.Room
import Cdecao.Spec.Score
import Cdecao.Spec.Valid
import Cdecao.Proofs.SumU32
import Cdecao.Props.C08U32
