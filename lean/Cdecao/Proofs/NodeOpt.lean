import Mathlib.Algebra.BigOperators.Group.Finset.Piecewise
import Cdecao.Proofs.Relax
import Cdecao.Proofs.NodeFeasible
/-! The clauses of the engine's node specification at node level, for C02_partial / C03. The relaxation bound:
    any placement of the node's active participants that respects capacities and enforced minima weighs at
    most the Hungarian score. From it, in the class where instructors with own choices only instruct fixed
    courses (where every solution of a node is such a placement): the node score bounds every solution of
    the node (`node_bound`), an early "no solution" is right (`node_none`), a feasible node reports a best
    solution (`feas_in_sol`, `feas_optimal`), and a node whose relaxation optimum puts a participant into a
    course they did not choose has no solution (`wrong_empty`). Independently of the bound and of the class,
    branching only restricts (`node_mono`) and is exhaustive for a violated minimum (`cover_min`). -/
open Finset
namespace N2
open H2

/-- a relaxed-feasible placement of the active participants of node `nd` -/
structure Placement (I : Inst) (nd : Node) (g : Nat → Nat) : Prop where
  inC : ∀ p, p < I.P → skipXBase I nd p = false → g p < I.C
  cap : ∀ c, c < I.C → #((range I.P).filter (fun p => skipXBase I nd p = false ∧ g p = c)) ≤ effMax I nd c
  min : ∀ c, c ∈ nd.enforced → (I.course c).numMin ≤ #((range I.P).filter (fun p => skipXBase I nd p = false ∧ g p = c))

theorem weight_course (I : Inst) (x cp cp' : Nat) (h : I.colCourse cp = I.colCourse cp') :
    I.weight x cp = I.weight x cp' := by
  unfold Inst.weight; rw [h]

theorem relax_bound (I : Inst) (nd : Node) (hI : InstOK2 I)
    (hmm : ∀ c, c < I.C → (I.course c).numMin ≤ (I.course c).numMax) (hn : NodeOK2 I nd)
    (hg : guards I nd = none) (mm : Vec Nat) (hsc : Int) (hrun : H2.run (nodeInp I nd) = some (mm, hsc))
    (g : Nat → Nat) (hpl : Placement I nd g) :
    ((∑ p ∈ (range I.P).filter (fun p => skipXBase I nd p = false), G.weightOf I p (g p) : Nat) : Int) ≤ hsc := by
  classical
  have hgp := (guards_eq_none_iff I nd).1 hg
  obtain ⟨-, -, hopt⟩ := node_matching hgp hrun
  obtain ⟨D, -, hsq, hperf_of⟩ := node_problem hgp
  set Y := (probOf (nodeInp I nd)).Y
  set Rr := (range I.P).filter (fun x => skipXBase I nd x = false)
  let Mand := Y.filter (fun cp => mandY I nd cp = true)
  have hYeq : Y = (range I.m).filter (fun cp => skipY I nd cp = false) := liveCols_eq I nd
  have hRf : ∀ c, Rr.filter (fun p => g p = c)
      = (range I.P).filter (fun p => skipXBase I nd p = false ∧ g p = c) := fun c => filter_filter _ _ _
  have hcapY : ∀ c, #(Rr.filter (fun p => g p = c)) ≤ #(Y.filter (fun y => I.colCourse y = c)) := by
    intro c
    rw [hRf, hYeq, filter_filter]
    by_cases hc : c < I.C
    · rw [live_card I nd c hc]; exact hpl.cap c hc
    · -- no active participant is placed outside the instance
      rw [card_eq_zero.2 (filter_eq_empty_iff.2 fun p hp ⟨h1, h2⟩ => hc (h2 ▸ hpl.inC p (mem_range.1 hp) h1))]
      exact Nat.zero_le _
  have hminY : ∀ c, #(Mand.filter (fun y => I.colCourse y = c)) ≤ #(Rr.filter (fun p => g p = c)) := by
    intro c
    rw [hRf]
    by_cases hce : c ∈ nd.enforced
    · refine Nat.le_trans ?_ (hpl.min c hce)
      rw [← mand_card I nd c (hn.enf c hce) (hmm c (hn.enf c hce)) hce]
      rw [filter_filter]
      exact card_le_card (filter_subset_filter _ (by rw [hYeq]; exact filter_subset _ _))
    · -- only enforced courses have mandatory columns
      rw [card_eq_zero.2 (filter_eq_empty_iff.2 fun cp hcp hcc => hce ?_)]
      · exact Nat.zero_le _
      · exact hcc ▸ (mandY_iff.1 (mem_filter.1 hcp).2).1
  obtain ⟨σ, hσ1, hσ2, hσ3, hσ4⟩ := exists_matching_of_placement Rr D Y Mand I.colCourse g (filter_subset _ _)
    hsq hcapY hminY
  have hperf := hperf_of σ hσ1 hσ2 hσ3
  refine Int.le_trans ?_ (hopt σ hperf)
  -- the weight of σ dominates the placement's weight
  choose! yof hy1 hy2 hy3 using hσ4
  have hinj : Set.InjOn yof Rr := fun p1 h1 p2 h2 he =>
    (hy2 p1 h1).symm.trans ((congrArg σ he).trans (hy2 p2 h2))
  rw [← sum_cast]
  have hterm : ∀ p ∈ Rr, ((G.weightOf I p (g p) : Nat) : Int) = (nodeInp I nd).wt (σ (yof p)) (yof p) := by
    intro p hp
    have hym : yof p < I.m := ((mem_Y_iff I nd (yof p)).1 (hy1 p hp)).1
    have hpP : p < I.P := mem_range.1 (mem_filter.1 hp).1
    have hpn : p < I.n := Nat.lt_of_lt_of_le hpP (le_n I)
    rw [hy2 p hp, wt_eq I nd _ _ hpn hym, ← hy3 p hp, ← wN_real I p _ hpP, wN,
      Int.toNat_of_nonneg (weight_nonneg I hI.pen _ _)]
  rw [sum_congr rfl hterm, ← sum_image (f := fun y => (nodeInp I nd).wt (σ y) y) hinj]
  unfold weight
  rw [probOf_w]
  apply sum_le_sum_of_subset_of_nonneg
  · intro y hy
    obtain ⟨p, hp, rfl⟩ := mem_image.1 hy
    exact hy1 p hp
  · intro y hy _
    obtain ⟨hym, hs⟩ := (mem_Y_iff I nd y).1 hy
    rw [wt_eq I nd _ _ (perfect_row hperf hym hs).1 hym]
    exact weight_nonneg I hI.pen _ _

#print axioms relax_bound

/-- the class outside F1: an instructor with own choices instructs only fixed courses -/
def NoFreeable (I : Inst) : Prop :=
  ∀ c p, c < I.C → I.instructs p c = true → I.hasChoices p = true → (I.course c).fixed = true

/-- a solution of the instance that is consistent with the restrictions of node `nd` -/
structure SolIn (I : Inst) (nd : Node) (a : Nat → Option Nat) : Prop where
  hard : G.HardOK I a
  canc : ∀ c ∈ nd.cancelled, ∀ p, p < I.P → a p ≠ some c
  enf : ∀ c ∈ nd.enforced, (I.course c).numMin ≤ G.attendees I a c
  shr : ∀ cs ∈ nd.shrinked, G.attendees I a cs.1 ≤ cs.2

theorem active_facts {I : Inst} {nd : Node} (hn : NodeOK I nd) {a : Nat → Option Nat} (hs : SolIn I nd a)
    {p : Nat} (hp : p < I.P) (hact : skipXBase I nd p = false) :
    ∃ c, a p = some c ∧ c < I.C ∧ I.instructs p c = false ∧ (∃ ch ∈ (I.part p).choices, ch.course = c) := by
  obtain ⟨hch, hni⟩ := (skipXBase_false_iff I nd hp).1 hact
  -- every course p instructs is cancelled in the node, hence does not take place
  have hnone : ¬ ∃ c, c < I.C ∧ I.instructs p c = true ∧ G.takesPlace I a c := by
    rintro ⟨d, hd, hin, htp⟩
    have hdc : d ∈ nd.cancelled := by
      by_contra hnc
      rw [hni d hd hnc] at hin; cases hin
    rcases htp with hfx | ⟨q, hq, haq⟩
    · have := hn d hdc; rw [hfx] at this; cases this
    · exact hs.canc d hdc q hq haq
  obtain ⟨ch, hchm, hach⟩ := hs.hard.chosen p hp hch hnone
  refine ⟨ch.course, hach, hs.hard.range p hp _ hach, ?_, ch, hchm, rfl⟩
  by_contra hin
  simp only [Bool.not_eq_false] at hin
  exact hnone ⟨ch.course, hs.hard.range p hp _ hach, hin, Or.inr ⟨p, hp, hach⟩⟩

theorem attendee_active (I : Inst) (nd : Node) (hnf : NoFreeable I) (a : Nat → Option Nat) (hs : SolIn I nd a)
    (p c : Nat) (hp : p < I.P) (hap : a p = some c) (hni : I.instructs p c = false) : skipXBase I nd p = false := by
  have hch : I.hasChoices p = true := by
    by_contra h
    have := hs.hard.only p hp (by simpa using h) c hap
    rw [hni] at this; cases this
  -- a live course `p` instructed would be fixed, so take place with `p` in it
  refine (skipXBase_false_iff I nd hp).2 ⟨hch, fun d hd _ => Bool.eq_false_iff.2 fun hin => ?_⟩
  have := hs.hard.instr d hd (Or.inl (hnf d p hd hin hch)) p hp hin
  rw [hap, Option.some.injEq] at this
  rw [this, hin] at hni; cases hni

def gOf (a : Nat → Option Nat) (p : Nat) : Nat := (a p).getD 0

theorem placement_of_sol (I : Inst) (nd : Node) (hn : NodeOK I nd) (hnf : NoFreeable I)
    (a : Nat → Option Nat) (hs : SolIn I nd a) : Placement I nd (gOf a) := by
  -- the active participants placed in `c` are exactly the attendees of `c`
  have hset : ∀ c, (range I.P).filter (fun p => skipXBase I nd p = false ∧ gOf a p = c)
      = (range I.P).filter (fun p => (a p == some c && !I.instructs p c) = true) := by
    intro c
    ext p
    simp only [mem_filter, mem_range, Bool.and_eq_true, beq_iff_eq, Bool.not_eq_true']
    constructor
    · rintro ⟨hp, hact, hg⟩
      obtain ⟨c', h1, _, h3, _⟩ := active_facts hn hs hp hact
      simp only [gOf, h1, Option.getD_some] at hg
      subst hg
      exact ⟨hp, h1, h3⟩
    · rintro ⟨hp, hap, hni⟩
      exact ⟨hp, attendee_active I nd hnf a hs p c hp hap hni, by simp [gOf, hap]⟩
  have hatt : ∀ c, #((range I.P).filter (fun p => skipXBase I nd p = false ∧ gOf a p = c)) = G.attendees I a c := by
    intro c
    rw [hset, G.attendees, countP_range_eq_card]
  refine ⟨?_, ?_, ?_⟩
  · intro p hp hact
    obtain ⟨c, h1, h2, _, _⟩ := active_facts hn hs hp hact
    simp only [gOf, h1, Option.getD_some]; exact h2
  · intro c hc
    rw [hatt]
    by_cases hcc : c ∈ nd.cancelled
    · -- cancelled: nobody is assigned
      rw [G.attendees_eq_zero fun p hp => hs.canc c hcc p hp]; exact Nat.zero_le _
    · exact (le_effMax_iff hcc).2 ⟨G.hard_attendees_le hs.hard hc, fun cs hcs he => he ▸ hs.shr cs hcs⟩
  · intro c hce
    rw [hatt]; exact hs.enf c hce

#print axioms placement_of_sol

/-- C02_partial / C03 core (`NodeSpec.bound`): the node score bounds every solution consistent with the node -/
theorem node_bound (I : Inst) (nd : Node) (hI : InstOK2 I)
    (hmm : ∀ c, c < I.C → (I.course c).numMin ≤ (I.course c).numMax) (hn2 : NodeOK2 I nd) (hnf : NoFreeable I)
    (hg : guards I nd = none) (mm : Vec Nat) (hsc : Int) (hrun : H2.run (nodeInp I nd) = some (mm, hsc))
    (a : Nat → Option Nat) (hs : SolIn I nd a) : G.scoreOf I a ≤ hsc.toNat + bonusOf I nd := by
  have hn := hn2.nodeOK
  have hpl := placement_of_sol I nd hn hnf a hs
  have hrel := relax_bound I nd hI hmm hn2 hg mm hsc hrun (gOf a) hpl
  have hrel' : ∑ p ∈ (range I.P).filter (fun p => skipXBase I nd p = false), G.weightOf I p (gOf a p) ≤ hsc.toNat := by
    have := Int.toNat_le_toNat hrel
    rwa [Int.toNat_natCast] at this
  rw [bonus_eq I nd mm.get hI.toInstOK hI.nodup]
  refine Nat.le_trans ?_ (Nat.add_le_add_right hrel' _)
  rw [sum_filter, sum_filter, ← sum_add_distrib]
  unfold G.scoreOf
  apply sum_le_sum
  intro p hp
  have hpP := mem_range.1 hp
  by_cases hact : skipXBase I nd p = false
  · obtain ⟨c, h1, _, h3, _⟩ := active_facts hn hs hpP hact
    simp only [h1, h3, Bool.false_eq_true, if_false, hact, if_true, gOf, Option.getD_some]
    omega
  · rw [if_neg hact]
    cases hap : a p with
    | none => simp
    | some c =>
      dsimp only
      by_cases hin : I.instructs p c = true
      · rw [if_pos hin]
        by_cases hch : I.hasChoices p = true
        · rw [if_pos hch]
          have hc : c < I.C := hs.hard.range p hpP c hap
          have hnc : c ∉ nd.cancelled := fun hcc => hs.canc c hcc p hpP hap
          have hsome : (G.instrOf I (ctxOf I nd mm.get) p).isSome = true :=
            G.instrOf_isSome hc (by simpa [ctxOf] using hnc) hin
          rw [if_pos ⟨hsome, hch⟩]
          simp [G.W]
        · rw [if_neg hch]; omega
      · exfalso
        exact hact (attendee_active I nd hnf a hs p c hpP hap (by simpa using hin))

#print axioms node_bound

theorem solIn_mono {I : Inst} {nd k : Node} {a : Nat → Option Nat} (hs : SolIn I k a)
    (h1 : ∀ c ∈ nd.cancelled, c ∈ k.cancelled) (h2 : ∀ c ∈ nd.enforced, c ∈ k.enforced)
    (h3 : ∀ cs ∈ nd.shrinked, cs ∈ k.shrinked) : SolIn I nd a :=
  ⟨hs.hard, fun c hc => hs.canc c (h1 c hc), fun c hc => hs.enf c (h2 c hc), fun cs hcs => hs.shr cs (h3 cs hcs)⟩

/-- `NodeSpec.mono` -/
theorem node_mono (I : Inst) (R : RoomFns) (nd : Node) (kids : List Node) (sc : Nat)
    (h : runNodeS I R nd = .ok (.infeasible kids sc)) (k : Node) (hk : k ∈ kids) (a : Nat → Option Nat)
    (hs : SolIn I k a) : SolIn I nd a := by
  -- every child only adds restrictions
  rcases kid_cases h k hk with ⟨_, _, r, -, rfl, -⟩ | ⟨c, -, -, -, rfl | ⟨-, rfl⟩⟩
  · exact solIn_mono hs (fun _ hc => List.mem_append_left _ hc) (fun _ h => h)
      (fun _ hcs => List.mem_append_left _ hcs)
  · exact solIn_mono hs (fun _ h => h) (fun _ hc => List.mem_append_left _ hc) (fun _ h => h)
  · exact solIn_mono hs (fun _ hc => List.mem_append_left _ hc) (fun _ h => h) (fun _ h => h)

/-- `NodeSpec.cover`, minimum case: a solution of the node either runs course `c` (then it is a solution
    of the enforce-child) or leaves it empty (then `c` is not fixed and it is a solution of the cancel-child) -/
theorem cover_min (I : Inst) (nd : Node) (a : Nat → Option Nat) (hs : SolIn I nd a) (c : Nat) (hc : c < I.C) :
    SolIn I { nd with enforced := nd.enforced ++ [c] } a ∨
    ((I.course c).fixed = false ∧ SolIn I { nd with cancelled := nd.cancelled ++ [c] } a) := by
  by_cases htp : G.takesPlace I a c
  · exact .inl ⟨hs.hard, hs.canc,
      List.forall_mem_append.2 ⟨hs.enf, List.forall_mem_singleton.2 (hs.hard.min _ hc htp)⟩, hs.shr⟩
  · simp only [G.takesPlace, not_or, not_exists, not_and] at htp
    exact .inr ⟨by simpa using htp.1, hs.hard,
      List.forall_mem_append.2 ⟨hs.canc, List.forall_mem_singleton.2 htp.2⟩, hs.enf, hs.shr⟩

#print axioms node_mono
#print axioms cover_min

theorem active_fiber {I : Inst} {nd : Node} {g : Nat → Nat} (hpl : Placement I nd g) :
    #((range I.P).filter (fun p => skipXBase I nd p = false))
      = ∑ c ∈ range I.C, #((range I.P).filter (fun p => skipXBase I nd p = false ∧ g p = c)) := by
  rw [card_eq_sum_card_fiberwise (f := g) (t := range I.C)]
  · exact sum_congr rfl fun c _ => by rw [filter_filter]
  · exact fun p hp => mem_coe.2 (mem_range.2 (hpl.inC p (mem_range.1 (mem_filter.1 hp).1) (mem_filter.1 hp).2))

theorem foldl_nodup_le (C : Nat) (f h : Nat → Nat) (l : List Nat) (hnd : l.Nodup) (hl : ∀ c ∈ l, c < C)
    (hle : ∀ c ∈ l, f c ≤ h c) : l.foldl (fun acc c => acc + f c) 0 ≤ ∑ c ∈ range C, h c := by
  rw [foldl_add_eq_list_sum, ← List.sum_toFinset _ hnd]
  calc ∑ c ∈ l.toFinset, f c ≤ ∑ c ∈ l.toFinset, h c := sum_le_sum (fun c hc => hle c (by simpa using hc))
    _ ≤ ∑ c ∈ range C, h c := sum_le_sum_of_subset_of_nonneg
        (fun c hc => mem_range.2 (hl c (by simpa using hc))) (fun _ _ _ => Nat.zero_le _)

/-- `NodeSpec.none` -/
theorem node_none (I : Inst) (nd : Node) (hI : InstOK I) (hn2 : NodeOK2 I nd) (hnd : nd.enforced.Nodup)
    (hnf : NoFreeable I) (hg : guards I nd = some (.ok .noSol)) (a : Nat → Option Nat) : ¬ SolIn I nd a := by
  intro hs
  have hn := hn2.nodeOK
  have hpl := placement_of_sol I nd hn hnf a hs
  have hact := active_card I nd hI.pre
  have hfib := active_fiber hpl
  obtain ⟨-, h3 | h4 | ⟨x, hx, hact', hall⟩⟩ := guards_eq_ok hg
  · -- too many enforced places
    have := foldl_nodup_le I.C (fun c => (I.course c).numMin)
      (fun c => #((range I.P).filter (fun p => skipXBase I nd p = false ∧ gOf a p = c))) nd.enforced hnd hn2.enf
      (fun c hc => hpl.min c hc)
    omega
  · -- not enough places
    have : ∑ c ∈ range I.C, #((range I.P).filter (fun p => skipXBase I nd p = false ∧ gOf a p = c))
        ≤ ∑ c ∈ range I.C, effMax I nd c := sum_le_sum (fun c hc => hpl.cap c (mem_range.1 hc))
    rw [foldl_add_eq_sum] at h4
    omega
  · -- an active participant whose choices are all cancelled
    obtain ⟨c, hac, _, _, ch, hch, rfl⟩ := active_facts hn hs hx hact'
    exact hs.canc ch.course (by simpa [List.contains_iff_mem] using hall ch hch) x hx hac

#print axioms node_none

/-- `NodeSpec.feas`, first clause: the reported assignment is a solution consistent with the node -/
theorem feas_in_sol (I : Inst) (R : RoomFns) (nd : Node) (hI : InstOK2 I)
    (hmm : ∀ c, c < I.C → (I.course c).numMin ≤ (I.course c).numMax) (hn2 : NodeOK2 I nd)
    (al : List (Option Nat)) (sc : Nat) (h : runNodeS I R nd = .ok (.feasible al sc)) :
    ∃ a : Nat → Option Nat, al = (List.range I.P).map a ∧ SolIn I nd a ∧ sc = G.scoreOf I a := by
  have hn := hn2.nodeOK
  obtain ⟨mm, _, hf, hscore⟩ := node_feasible_mm hI hn h
  have hctx := ctxOK I nd hI.toInstOK hn mm hf.perfect
  refine ⟨assign I nd mm.get, hf.list, ?_, hscore⟩
  -- the assignment is that of the gate context, about which `Gate` speaks
  have hhard := hf.hard
  rw [assign_eq] at hhard ⊢
  refine ⟨hhard, ?_, ?_, ?_⟩
  · -- nobody sits in a cancelled course
    intro c hc p _ hap
    exact (G.assign_live hctx hap).2 hc
  · -- enforced courses are live, and the gate has checked the minimum of every live course
    intro c hce
    exact G.gate_min hf.gate (hn2.enf c hce) fun hcan => (hn2.canc c hcan).2.2 hce
  · -- shrink sizes are respected: the attendees sit in the live columns of the course
    intro cs hcs
    refine Nat.le_trans (G.attendees_le_cols I (ctxOf I nd mm.get) cs.1) ?_
    show #((range I.m).filter (fun cp => skipY I nd cp = false ∧ I.colCourse cp = cs.1)) ≤ cs.2
    rw [live_card I nd cs.1 (hn2.shr cs hcs).1]
    exact effMax_le_shr hcs

/-- `NodeSpec.feas`, complete: … and no solution consistent with the node scores more -/
theorem feas_optimal (I : Inst) (R : RoomFns) (nd : Node) (hI : InstOK2 I)
    (hmm : ∀ c, c < I.C → (I.course c).numMin ≤ (I.course c).numMax) (hn2 : NodeOK2 I nd) (hnf : NoFreeable I)
    (al : List (Option Nat)) (sc : Nat) (h : runNodeS I R nd = .ok (.feasible al sc))
    (a' : Nat → Option Nat) (hs : SolIn I nd a') : G.scoreOf I a' ≤ sc := by
  obtain ⟨mm, hsc, hg, hrun, -, -, -, rfl⟩ := runNodeS_feasible h
  exact node_bound I nd hI hmm hn2 hnf ((guards_eq_none_iff I nd).2 hg) mm hsc hrun a' hs

#print axioms feas_in_sol
#print axioms feas_optimal

def maxPen (I : Inst) (p : Nat) : Nat := (I.part p).choices.foldl (fun m ch => max m ch.penalty) 0

theorem foldl_max_le_iff (l : List Nat) (m B : Nat) : l.foldl max m ≤ B ↔ m ≤ B ∧ ∀ x ∈ l, x ≤ B := by
  induction l generalizing m with
  | nil => simp
  | cons y ys ih => simp only [List.foldl_cons, ih, Nat.max_le, List.forall_mem_cons, and_assoc]

theorem foldl_max_ge (l : List Nat) (m : Nat) : m ≤ l.foldl max m ∧ ∀ x ∈ l, x ≤ l.foldl max m :=
  (foldl_max_le_iff l m _).1 (Nat.le_refl _)

theorem maxPen_le_iff {I : Inst} {p B : Nat} : maxPen I p ≤ B ↔ ∀ ch ∈ (I.part p).choices, ch.penalty ≤ B := by
  rw [maxPen, ← List.foldl_map (f := fun ch : Choice => ch.penalty) (g := max), foldl_max_le_iff]
  simp only [Nat.zero_le, true_and, List.forall_mem_map]

theorem weightOf_chosen {I : Inst} {p c : Nat} {ch : Choice} (hch : ch ∈ (I.part p).choices) (hc : ch.course = c) :
    G.W ≤ G.weightOf I p c + maxPen I p := by
  rcases G.weightOf_cases I p c with ⟨ch', hm, -, h⟩ | ⟨h, -⟩
  · have := maxPen_le_iff.1 (Nat.le_refl _) ch' hm; omega
  · exact absurd ⟨ch, hch, hc⟩ h

theorem weightOf_unchosen {I : Inst} {p c : Nat} (h : ¬ ∃ ch ∈ (I.part p).choices, ch.course = c) :
    G.weightOf I p c = 0 :=
  (G.weightOf_cases I p c).elim (fun ⟨ch, hm, hc, _⟩ => absurd ⟨ch, hm, hc⟩ h) (·.2)

/-- in an assignment satisfying the hard constraints, a participant with choices scores the full weight up
    to their largest penalty: they instruct a course that takes place, or sit in a course they chose -/
theorem hard_term_ge {I : Inst} {a : Nat → Option Nat} (h : G.HardOK I a) {p : Nat} (hp : p < I.P)
    (hch : I.hasChoices p = true) : G.W ≤ G.scoreTerm I a p + maxPen I p := by
  unfold G.scoreTerm
  by_cases hex : ∃ c, c < I.C ∧ I.instructs p c = true ∧ G.takesPlace I a c
  · obtain ⟨c, hc, hin, htp⟩ := hex
    simp [h.instr c hc htp p hp hin, hin, hch]
  · obtain ⟨ch, hm, hap⟩ := h.chosen p hp hch hex
    have hni : ¬ I.instructs p ch.course = true := fun hin =>
      hex ⟨ch.course, h.range p hp _ hap, hin, .inr ⟨p, hp, hap⟩⟩
    simp only [hap, if_neg hni]
    exact weightOf_chosen hm rfl

theorem scoreTerm_noChoices {I : Inst} (b : Nat → Option Nat) {p : Nat} (hch : ¬ I.hasChoices p = true) :
    G.scoreTerm I b p = 0 := by
  unfold G.scoreTerm
  split
  · rfl
  · split
    · rfl
    · apply weightOf_unchosen
      rintro ⟨ch, hm, _⟩
      simp [Inst.hasChoices] at hch
      rw [hch] at hm; cases hm

theorem wrong_empty (I : Inst) (nd : Node) (hI : InstOK2 I)
    (hmm : ∀ c, c < I.C → (I.course c).numMin ≤ (I.course c).numMax) (hn2 : NodeOK2 I nd) (hnf : NoFreeable I)
    (hpen : ∑ p ∈ range I.P, maxPen I p < G.W)
    (hg : guards I nd = none) (mm : Vec Nat) (hsc : Int) (hrun : H2.run (nodeInp I nd) = some (mm, hsc))
    (p0 : Nat) (hp0 : p0 < I.P) (hact0 : skipXBase I nd p0 = false)
    (hwrong : ∀ c, assign I nd mm.get p0 = some c → ¬ ∃ ch ∈ (I.part p0).choices, ch.course = c)
    (a : Nat → Option Nat) : ¬ SolIn I nd a := by
  intro hs
  have hn := hn2.nodeOK
  have hgp := (guards_eq_none_iff I nd).1 hg
  obtain ⟨hperf, -, -⟩ := node_matching hgp hrun
  have hctx := ctxOK I nd hI.toInstOK hn mm hperf
  -- (∗) the solution scores at most the relaxation's own assignment
  have hstar : G.scoreOf I a ≤ G.scoreOf I (assign I nd mm.get) :=
    node_score_eq hI hn hgp hrun ▸ node_bound I nd hI hmm hn2 hnf hg mm hsc hrun a hs
  rw [G.scoreOf_eq, G.scoreOf_eq] at hstar
  -- but termwise it gains the whole weight of `p0`, and loses at most the penalties
  have hterm : ∀ p ∈ range I.P, G.scoreTerm I (assign I nd mm.get) p + (if p = p0 then G.W else 0)
      ≤ G.scoreTerm I a p + maxPen I p := by
    intro p hp
    have hpP := mem_range.1 hp
    by_cases hch : I.hasChoices p = true
    · have hA := hard_term_ge hs.hard hpP hch
      by_cases hpp : p = p0
      · subst hpp
        rw [if_pos rfl]
        -- `p` is active, so it does not instruct the course it sits in, which it did not choose
        have hM : G.scoreTerm I (assign I nd mm.get) p = 0 := by
          unfold G.scoreTerm
          cases hap : assign I nd mm.get p with
          | none => rfl
          | some c' =>
            have hni : ¬ I.instructs p c' = true := fun hin => by
              have hlv := G.assign_live hctx (assign_eq I nd mm.get ▸ hap)
              have := G.isInstr_true_of hlv.1 hlv.2 hin
              rw [isInstr_eq I nd mm.get p hpP, hact0] at this
              cases this
            simp only [if_neg hni]
            exact weightOf_unchosen (hwrong c' hap)
        omega
      · rw [if_neg hpp]
        have := G.scoreTerm_le I (assign I nd mm.get) p
        omega
    · -- no choices: not `p0`, which is active
      have hne : p ≠ p0 := fun e => hch (e ▸ ((skipXBase_false_iff I nd hp0).1 hact0).1)
      rw [if_neg hne, scoreTerm_noChoices _ hch]
      omega
  have hsum := sum_le_sum hterm
  rw [sum_add_distrib, sum_add_distrib, sum_ite_eq' (range I.P) p0 (fun _ => G.W), if_pos (mem_range.2 hp0)] at hsum
  omega

#print axioms wrong_empty
end N2
