import Cdecao.Proofs.RoomGate
import Cdecao.Proofs.NodeInv
/-! C06 at node level: the room check lets a node pass exactly if the code's rank-by-rank check `RG.codeOk`
    passes, i.e. (by `codeOk_iff`) the descending effective sizes fit the descending rooms. -/
namespace N2
open H2 RG

theorem checkRoom_true_iff {I : Inst} {R : RoomFns} {nd : Node} {a : Nat → Option Nat} {rooms : List Nat} :
    (∃ sets, checkRoom I R nd a rooms = .ok (true, sets)) ↔ codeOk (effSizes I R a) rooms = true := by
  refine ⟨fun ⟨_, h⟩ => ?_, fun h => ⟨[], checkRoom_of_codeOk h⟩⟩
  rcases checkRoom_eq_ok h with ⟨-, -, hok⟩ | ⟨hb, -⟩
  · exact hok
  · cases hb

/-- C06, node level -/
theorem C06_node (I : Inst) (R : RoomFns) (nd : Node) (al : List (Option Nat)) (sc : Nat) (rooms : List Nat)
    (hr : I.roomSizes = some rooms) (h : runNodeS I R nd = .ok (.feasible al sc)) :
    ∃ a : Nat → Option Nat, al = (List.range I.P).map a ∧
      ∀ s r, (s, r) ∈ (sortedDesc ((effSizes I R a).map (·.2))).zip rooms → s ≤ r := by
  obtain ⟨mm, -, -, -, hroom, -, hal, -⟩ := runNodeS_feasible h
  exact ⟨_, hal, (codeOk_iff _ _).1 (checkRoom_true_iff.1 (hroom rooms hr))⟩

#print axioms C06_node
end N2
