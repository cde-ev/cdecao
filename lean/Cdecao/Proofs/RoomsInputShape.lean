import Cdecao.Model.RoomsInput
/-! Lemmas for the two room inputs (`RI`): `mapOpt` entry by entry, what the number readers accept.
    Core only. -/
namespace RI
open JS

theorem mapOpt_eq_some_iff {α β : Type} {f : α → Option β} {l : List α} {r : List β} :
    mapOpt f l = some r ↔ l.map f = r.map some := by
  induction l generalizing r with
  | nil => cases r <;> simp [mapOpt]
  | cons x xs ih =>
    rw [mapOpt]
    cases hx : f x with
    | none => cases r <;> simp [hx]
    | some y =>
      cases hxs : mapOpt f xs with
      | none => cases r <;> simp [hx, ← ih, hxs]
      | some ys => cases r <;> simp [hx, ← ih, hxs]

theorem mapOpt_none_of_bad {α β : Type} {f : α → Option β} {l : List α} {x : α}
    (hx : x ∈ l) (hbad : f x = none) : mapOpt f l = none := by
  cases h : mapOpt f l with
  | none => rfl
  | some r =>
    obtain ⟨_, -, hy⟩ := List.mem_map.1 (mapOpt_eq_some_iff.1 h ▸ List.mem_map_of_mem hx)
    rw [hbad] at hy; cases hy

theorem asUsize_some {j : J} {n : Nat} (h : asUsize j = some n) :
    j = .num (.pos n) ∧ n ≤ J.U64_MAX := by
  unfold asUsize at h
  repeat' split at h
  all_goals cases h
  exact ⟨rfl, ‹_›⟩

theorem digitsVal_some {ds : List Char} {n : Nat} (h : digitsVal ds = some n) :
    ds ≠ [] ∧ (∀ c ∈ ds, c.isDigit = true) ∧ n = digitsNat ds ∧ n ≤ J.U64_MAX := by
  unfold digitsVal at h
  repeat' split at h
  all_goals cases h
  rename_i hne hall hle
  exact ⟨fun h0 => hne (h0 ▸ rfl), by simpa using hall, rfl, hle⟩

theorem parseUsizeL_some {cs : List Char} {n : Nat} (h : parseUsizeL cs = some n) :
    ∃ ds, (cs = ds ∨ cs = '+' :: ds) ∧ digitsVal ds = some n := by
  unfold parseUsizeL at h
  split at h
  · exact ⟨_, Or.inr rfl, h⟩
  · exact ⟨cs, Or.inl rfl, h⟩

end RI
