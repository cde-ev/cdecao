import Mathlib.Data.Finset.Sort
import Cdecao.Proofs.Sel
import Cdecao.Model.Node
/-! C20, completeness: the k-selection iterator of util.rs yields every strictly increasing list of
    `k` indices below `n` exactly once, and it coincides with the recursive colexicographic
    enumeration `N2.colexIdx` used by the node model. -/
namespace S

/-- `Incr` is the adjacent form of "strictly increasing"; `<` is transitive -/
theorem incr_iff_pairwise : ∀ l : List Nat, Incr l ↔ l.Pairwise (· < ·)
  | [] => by simp [Incr]
  | [a] => by simp [Incr]
  | a :: b :: r => by
    rw [Incr, incr_iff_pairwise (b :: r), ← List.isChain_iff_pairwise, ← List.isChain_iff_pairwise,
      List.isChain_cons_cons]

/-- a selection: strictly increasing list of `k` indices below `n` -/
def Sel (n k : Nat) (l : List Nat) : Prop := l.Pairwise (· < ·) ∧ (∀ a ∈ l, a < n) ∧ l.length = k

/-- the two vocabularies: `Sel` (with `List.Pairwise`) and `Valid` (with `Incr`) -/
theorem sel_iff {n k : Nat} {l : List Nat} : Sel n k l ↔ Valid n 0 l ∧ l.length = k :=
  ⟨fun ⟨a, b, c⟩ => ⟨⟨(incr_iff_pairwise l).mpr a, b, fun _ _ _ => Nat.zero_le _⟩, c⟩,
   fun ⟨h, c⟩ => ⟨(incr_iff_pairwise l).mp h.inc, h.lt, c⟩⟩

theorem sel_concat {N k b : Nat} {m : List Nat} : Sel N (k + 1) (m ++ [b]) ↔ Sel b k m ∧ b < N := by
  simp only [Sel, List.pairwise_append, List.pairwise_singleton, List.mem_singleton, forall_eq,
    List.mem_append, List.length_append, List.length_singleton, Nat.add_right_cancel_iff, or_imp,
    forall_and, true_and]
  constructor
  · rintro ⟨⟨h1, h2⟩, ⟨_, h4⟩, h5⟩; exact ⟨⟨h1, h2, h5⟩, h4⟩
  · rintro ⟨⟨h1, h2, h5⟩, h4⟩; exact ⟨⟨h1, h2⟩, ⟨fun a ha => Nat.lt_trans (h2 a ha) h4, h4⟩, h5⟩

theorem rank_append (l : List Nat) (a : Nat) : ∀ j, rank j (l ++ [a]) = rank j l + Nat.choose a (j + l.length + 1) := by
  induction l with
  | nil => intro j; simp [rank]
  | cons b l ih =>
    intro j
    simp only [List.cons_append, rank, ih (j + 1), List.length_cons]
    rw [Nat.add_right_comm j 1, ← Nat.add_assoc]
    rfl

open N2 in
theorem mem_colexIdx : ∀ n k (l : List Nat), l ∈ colexIdx n k ↔ Sel n k l := by
  intro n k
  induction n, k using colexIdx.induct with
  | case1 n =>
    intro l
    simp only [colexIdx, List.mem_singleton, Sel, List.length_eq_zero_iff]
    exact ⟨by rintro rfl; simp, fun h => h.2.2⟩
  | case2 k =>
    intro l
    refine iff_of_false List.not_mem_nil ?_
    rintro ⟨_, h2, h3⟩
    obtain ⟨a, r, rfl⟩ := List.exists_cons_of_length_eq_add_one h3
    exact Nat.not_lt_zero a (h2 a List.mem_cons_self)
  | case3 n k ih1 ih2 =>
    intro l
    simp only [colexIdx, List.mem_append, List.mem_map, ih1, ih2]
    constructor
    · rintro (h | ⟨m, h, rfl⟩)
      · exact ⟨h.1, fun a ha => Nat.lt_succ_of_lt (h.2.1 a ha), h.2.2⟩
      · exact sel_concat.mpr ⟨h, Nat.lt_succ_self n⟩
    · intro h
      -- `l` is not empty; its last entry is below `n` or it is `n`
      obtain ⟨m, b, rfl⟩ := (List.eq_nil_or_concat l).resolve_left
        fun e => Nat.succ_ne_zero k (e ▸ h.2.2).symm
      rw [List.concat_eq_append] at h ⊢
      obtain ⟨hm, hb⟩ := sel_concat.mp h
      rcases Nat.lt_succ_iff_lt_or_eq.mp hb with hb | rfl
      · exact Or.inl (sel_concat.mpr ⟨hm, hb⟩)
      · exact Or.inr ⟨m, hm, rfl⟩

open N2 in
/-- `colexIdx n k` lists the selections by rank -/
theorem map_rank_colexIdx (n k : Nat) : (colexIdx n k).map (rank 0) = List.range (Nat.choose n k) := by
  induction n, k using colexIdx.induct with
  | case1 n => simp [colexIdx, rank]
  | case2 k => simp [colexIdx]
  | case3 n k ih1 ih2 =>
    -- appending `n` to a selection of `k` indices raises its rank by `choose n (k + 1)`
    have h : ∀ m ∈ colexIdx n k,
        (rank 0 ∘ (· ++ [n])) m = ((fun x => Nat.choose n (k + 1) + x) ∘ rank 0) m := fun m hm => by
      rw [Function.comp_apply, rank_append, ((mem_colexIdx n k m).mp hm).2.2, Nat.zero_add, Nat.add_comm]
      rfl
    rw [colexIdx, List.map_append, ih1, List.map_map, List.map_congr_left h, ← List.map_map, ih2,
      Nat.choose_succ_succ', Nat.add_comm (n.choose k), List.range_add]

open N2 in
theorem length_colexIdx (n k : Nat) : (colexIdx n k).length = Nat.choose n k := by
  rw [← List.length_map (rank 0), map_rank_colexIdx, List.length_range]

open N2 in
theorem rank_colexIdx {n k i : Nat} (h : i < (colexIdx n k).length) : rank 0 (colexIdx n k)[i] = i := by
  rw [← List.getElem_map (rank 0) (h := (List.length_map (rank 0)).symm ▸ h)]
  simp only [map_rank_colexIdx, List.getElem_range]

open N2 in
/-- selections of equal rank are equal: they are members of `colexIdx n k`, whose ranks are distinct -/
theorem rank_inj {n k : Nat} {l₁ l₂ : List Nat} (h1 : Sel n k l₁) (h2 : Sel n k l₂)
    (h : rank 0 l₁ = rank 0 l₂) : l₁ = l₂ :=
  List.inj_on_of_nodup_map (map_rank_colexIdx n k ▸ List.nodup_range)
    ((mem_colexIdx n k l₁).mpr h1) ((mem_colexIdx n k l₂).mpr h2) h

open N2 in
theorem nodup_colexIdx (n k : Nat) : (colexIdx n k).Nodup :=
  List.Nodup.of_map (rank 0) (map_rank_colexIdx n k ▸ List.nodup_range)

/-- any `n`: for `k > n` both are empty; for `k = 0` the iterator yields nothing whereas
    `colexIdx n 0 = [[]]` -/
theorem selections_eq_colexIdx (n k : Nat) (hk : 1 ≤ k) : selections n k = N2.colexIdx n k := by
  by_cases hkn : k ≤ n
  · obtain ⟨hlen, hspec⟩ := selections_spec n k hk hkn
    refine List.ext_getElem (by rw [hlen, length_colexIdx]) fun i h1 h2 => ?_
    -- both lists hold at place `i` the selection of rank `i`
    obtain ⟨l, hl, hv, hll, rfl⟩ := hspec i (hlen ▸ h1)
    rw [List.getElem?_eq_getElem h1, Option.some.injEq] at hl
    rw [hl]
    exact rank_inj (sel_iff.mpr ⟨hv, hll⟩) ((mem_colexIdx n k _).mp (List.getElem_mem h2)) (rank_colexIdx h2).symm
  · have hlt : n < k := Nat.lt_of_not_le hkn
    rw [selections_empty n k (Or.inr hlt)]
    refine (List.eq_nil_of_length_eq_zero ?_).symm
    rw [length_colexIdx, Nat.choose_eq_zero_of_lt hlt]

theorem selections_nodup (n k : Nat) : (selections n k).Nodup := by
  rcases Nat.eq_zero_or_pos k with rfl | hk
  · rw [selections_empty n 0 (Or.inl rfl)]; exact List.nodup_nil
  · rw [selections_eq_colexIdx n k hk]; exact nodup_colexIdx n k

theorem mem_selections (n k : Nat) (hk : 1 ≤ k) (l : List Nat) : l ∈ selections n k ↔ Sel n k l := by
  rw [selections_eq_colexIdx n k hk, mem_colexIdx]

/-- soundness in the vocabulary of `Sel`: only selections are yielded (for all `n`, `k`) -/
theorem selections_sound (n k : Nat) (l : List Nat) (h : l ∈ selections n k) : Sel n k l := by
  by_cases hk : k = 0 ∨ k > n
  · rw [selections_empty n k hk] at h; cases h
  · exact (mem_selections n k (by omega) l).mp h

theorem selections_count (n k : Nat) (hk : 1 ≤ k) (l : List Nat) (hinc : l.Pairwise (· < ·))
    (hlt : ∀ a ∈ l, a < n) (hlen : l.length = k) : (selections n k).count l = 1 :=
  List.count_eq_one_of_mem (selections_nodup n k) ((mem_selections n k hk l).mpr ⟨hinc, hlt, hlen⟩)

/-- the hypotheses are satisfiable: `[0, 2, 3]` is a selection of 3 out of 5 -/
example : (selections 5 3).count [0, 2, 3] = 1 :=
  selections_count 5 3 (by omega) [0, 2, 3] (by decide) (by decide) rfl

#print axioms selections_eq_colexIdx
#print axioms selections_nodup
#print axioms selections_count
#print axioms rank_inj
end S
