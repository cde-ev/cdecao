import Mathlib.Algebra.BigOperators.Group.Finset.Basic
import Mathlib.Algebra.Order.BigOperators.Group.Finset
import Mathlib.Data.Finset.Card
import Cdecao.Proofs.HungProof
/-! Partial correctness and optimality of `H2.run` (C07): the final labels are a dual certificate for the
    matching returned. -/
open Finset

namespace H2

structure Prob where
  X : Finset Nat
  Y : Finset Nat
  w : Nat → Nat → Int
  allowed : Nat → Nat → Prop

structure Perfect (P : Prob) (σ : Nat → Nat) : Prop where
  maps : ∀ y ∈ P.Y, σ y ∈ P.X
  inj : Set.InjOn σ P.Y
  allowed : ∀ y ∈ P.Y, P.allowed (σ y) y

def weight (P : Prob) (σ : Nat → Nat) : Int := ∑ y ∈ P.Y, P.w (σ y) y

structure Cert (P : Prob) (σ : Nat → Nat) (lx ly : Nat → Int) : Prop where
  feas : ∀ x ∈ P.X, ∀ y ∈ P.Y, P.allowed x y → P.w x y ≤ lx x + ly y
  tight : ∀ y ∈ P.Y, lx (σ y) + ly y = P.w (σ y) y

theorem Perfect.surjOn {P : Prob} (hsq : #P.X = #P.Y) {σ : Nat → Nat} (hσ : Perfect P σ) :
    Set.SurjOn σ P.Y P.X :=
  surjOn_of_injOn_of_card_le σ hσ.maps hσ.inj hsq.le

theorem sum_rows_of_perfect (P : Prob) (hsq : #P.X = #P.Y) {σ : Nat → Nat} (hσ : Perfect P σ) (f : Nat → Int) :
    ∑ y ∈ P.Y, f (σ y) = ∑ x ∈ P.X, f x :=
  sum_nbij σ hσ.maps hσ.inj (hσ.surjOn hsq) fun _ _ => rfl

theorem cert_sound (P : Prob) (hsq : #P.X = #P.Y) {σ σ' : Nat → Nat} {lx ly : Nat → Int}
    (hσ : Perfect P σ) (hc : Cert P σ lx ly) (hσ' : Perfect P σ') : weight P σ' ≤ weight P σ :=
  calc weight P σ' ≤ ∑ y ∈ P.Y, (lx (σ' y) + ly y) :=
        sum_le_sum fun y hy => hc.feas _ (hσ'.maps y hy) y hy (hσ'.allowed y hy)
    _ = ∑ y ∈ P.Y, (lx (σ y) + ly y) := by
        rw [sum_add_distrib, sum_add_distrib, sum_rows_of_perfect P hsq hσ' lx, sum_rows_of_perfect P hsq hσ lx]
    _ = weight P σ := sum_congr rfl fun y hy => hc.tight y hy

/-- the abstract problem solved by a call of the matching routine -/
def probOf (I : Inp) : Prob :=
  { X := (range I.nx).filter (fun x => I.skipx.get x = false)
    Y := (range I.ny).filter (fun y => I.skipy.get y = false)
    w := I.wt
    allowed := fun x y => allowed I x y = true }

theorem mem_X (I : Inp) (x : Nat) : x ∈ (probOf I).X ↔ InX I x := by simp [probOf, InX]
theorem mem_Y (I : Inp) (y : Nat) : y ∈ (probOf I).Y ↔ InY I y := by simp [probOf, InY]
theorem probOf_w (I : Inp) : (probOf I).w = I.wt := by simp only [probOf]
theorem probOf_allowed (I : Inp) (x y : Nat) : (probOf I).allowed x y = (allowed I x y = true) := by
  simp only [probOf]

theorem score_eq (I : Inp) (mm : Vec Nat) : scoreSum I mm = weight (probOf I) mm.get := by
  simp only [weight, probOf, sum_filter]
  exact List.foldl_range_inv _
    (fun n acc => acc = ∑ y ∈ range n, if I.skipy.get y = false then I.wt (mm.get y) y else 0) I.ny 0 rfl
    fun i b _ hb => by rw [sum_range_succ, ← hb]; cases I.skipy.get i <;> simp

theorem hung_partial (I : Inp) (hsq : #(probOf I).X = #(probOf I).Y) (mm : Vec Nat) (sc : Int)
    (h : run I = some (mm, sc)) :
    Perfect (probOf I) mm.get ∧ sc = weight (probOf I) mm.get ∧
    ∀ σ', Perfect (probOf I) σ' → weight (probOf I) σ' ≤ sc := by
  rw [run_eq_outer] at h
  split at h
  · cases h
  · next st ho =>
    cases h
    obtain ⟨hfin, cols, hlen, hcnd, hiff, hcols⟩ :=
      outer_correct I _ _ st (init_outInv I) (fun _ => mem_freeRows.1) (freeRows_nodup I) ho
    -- all non-skipped columns are matched, by counting
    have hcolsY : cols.toFinset ⊆ (probOf I).Y := fun y hy =>
      (mem_Y I y).2 (hfin.inv.mrow y ((hiff y).2 (.inr (List.mem_toFinset.1 hy)))).1
    have hXcard : #(probOf I).X = (freeRows I).length := by
      rw [← List.toFinset_card_of_nodup (freeRows_nodup I)]
      congr 1
      ext x; rw [mem_X, List.mem_toFinset, mem_freeRows]
    have hall : cols.toFinset = (probOf I).Y :=
      eq_of_subset_of_card_le hcolsY (by rw [List.toFinset_card_of_nodup hcnd, hlen, ← hXcard, hsq])
    have hm : ∀ y ∈ (probOf I).Y, st.m.get y = true := fun y hy =>
      (hiff y).2 (.inr (List.mem_toFinset.1 (hall ▸ hy)))
    have hrow := fun y hy => hfin.inv.mrow y (hm y hy)
    have hperf : Perfect (probOf I) st.mm.get :=
      ⟨fun y hy => (mem_X I _).2 (hrow y hy).2.1,
        fun y1 h1 y2 h2 heq => hfin.inv.minj y1 y2 (hm y1 h1) (hm y2 h2) heq,
        fun y hy => (hrow y hy).2.2.1⟩
    have hcert : Cert (probOf I) st.mm.get st.lx.get st.ly.get := by
      -- `(probOf I).w` is exposed as `I.wt` first: left to the unifier, `I.wt` is unfolded before `probOf`
      refine ⟨fun x hx y hy hal => ?_, fun y hy => ?_⟩ <;> dsimp only [probOf]
      · exact hfin.inv.feas x y ((mem_X I x).1 hx) ((mem_Y I y).1 hy) hal
      · exact (hrow y hy).2.2.2
    refine ⟨hperf, score_eq I st.mm, fun σ' hσ' => ?_⟩
    rw [score_eq I st.mm]
    exact cert_sound (probOf I) hsq hperf hcert hσ'

#print axioms hung_partial
end H2
