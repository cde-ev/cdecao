import Cdecao.Model.Hungarian
import Cdecao.Proofs.RangeFold
/-! Partial correctness of the matching routine `H2.run`, loop by loop: each loop of hungarian.rs has its
    invariant (`ScanInv`, `OInv`, `TInv`/`PInv`, `AugPre`, `OutInv`) and one lemma that it is kept. -/
namespace H2
open Vec

section veclemmas
variable {α : Type}
@[simp] theorem Vec.size_set (v : Vec α) (i : Nat) (x : α) : (v.set i x).size = v.size := by
  simp [Vec.size, Vec.set]
@[simp] theorem Vec.size_tab (n : Nat) (f : Nat → α) : (Vec.tab n f).size = n := by simp [Vec.size, Vec.tab]
@[simp] theorem Vec.size_const (n : Nat) (x : α) : (Vec.const n x).size = n := by simp [Vec.size, Vec.const]
variable [Inhabited α]
theorem Vec.get_set (v : Vec α) (i j : Nat) (x : α) :
    (v.set i x).get j = if i = j ∧ i < v.size then x else v.get j := by
  simp only [Vec.get, Vec.set, Vec.size, Array.getD_eq_getD_getElem?, Array.getElem?_setIfInBounds]
  by_cases e : i = j
  · subst e; by_cases h : i < v.a.size <;> simp [h]
  · simp [e]
theorem Vec.get_tab (n : Nat) (f : Nat → α) (i : Nat) :
    (Vec.tab n f).get i = if i < n then f i else default := by
  simp only [Vec.get, Vec.tab, Array.getD_eq_getD_getElem?]
  split <;> simp_all
theorem Vec.get_const (n : Nat) (x : α) (i : Nat) :
    (Vec.const n x).get i = if i < n then x else default := by
  simp only [Vec.get, Vec.const, Array.getD_eq_getD_getElem?]
  split <;> simp_all

theorem Vec.get_of_size_le {v : Vec α} {i : Nat} (h : v.size ≤ i) : v.get i = default := by
  simp only [Vec.get, Vec.size] at *
  simp [Array.getD_eq_getD_getElem?, Array.getElem?_eq_none h]

theorem Vec.get_set_of_lt {v : Vec α} {i : Nat} (h : i < v.size) (x : α) (j : Nat) :
    (v.set i x).get j = if j = i then x else v.get j := by
  rw [Vec.get_set]
  by_cases e : j = i
  · subst e; simp [h]
  · simp [e, Ne.symm e]

theorem Vec.get_set_self {v : Vec α} {i : Nat} (h : i < v.size) (x : α) : (v.set i x).get i = x :=
  (Vec.get_set_of_lt h x i).trans (if_pos rfl)

theorem Vec.get_set_ne (v : Vec α) {i j : Nat} (h : i ≠ j) (x : α) : (v.set i x).get j = v.get j := by
  simp [Vec.get_set, h]

/-- a mask with one more entry switched on -/
theorem Vec.get_set_true {v : Vec Bool} {i : Nat} (h : i < v.size) (j : Nat) :
    (v.set i true).get j = true ↔ j = i ∨ v.get j = true := by
  rw [Vec.get_set_of_lt h]
  by_cases e : j = i <;> simp [e]

theorem Vec.get_const_default (n i : Nat) : (Vec.const n (default : α)).get i = default := by
  rw [Vec.get_const]; exact ite_self _
end veclemmas

def slack (I : Inp) (st : St) (x y : Nat) : Int := st.lx.get x + st.ly.get y - I.wt x y
def elig (I : Inp) (tr : Tr) (x y : Nat) : Prop :=
  tr.s.get x = true ∧ tr.t.get y = false ∧ I.skipy.get y = false ∧ allowed I x y = true

/-- one inner step of the scan, exactly as in `scan` -/
def scanStep (I : Inp) (st : St) (tr : Tr) (x : Nat) (acc : Scan) (y : Nat) : Scan :=
  if !tr.t.get y && !I.skipy.get y && allowed I x y then
    let delta := st.lx.get x + st.ly.get y - I.wt x y
    match acc.dmin with
    | some d =>
      if delta = d then { acc with nlxt := acc.nlxt.set y true, nb := acc.nb.set y x }
      else if delta < d then { dmin := some delta, nlxt := (Vec.const I.ny false).set y true, nb := acc.nb.set y x }
      else acc
    | none => { dmin := some delta, nlxt := (Vec.const I.ny false).set y true, nb := acc.nb.set y x }
  else acc

def scanRow (I : Inp) (st : St) (tr : Tr) (acc : Scan) (x : Nat) : Scan :=
  if tr.s.get x then (List.range I.ny).foldl (scanStep I st tr x) acc else acc

theorem scan_eq (I : Inp) (st : St) (tr : Tr) :
    scan I st tr = (List.range I.nx).foldl (scanRow I st tr) { dmin := none, nlxt := tr.nlxt, nb := tr.nb } := rfl

/-- invariant of the scan: `done x y` says which pairs have been looked at -/
structure ScanInv (I : Inp) (st : St) (tr : Tr) (done : Nat → Nat → Prop) (acc : Scan) : Prop where
  szN : acc.nlxt.size = I.ny
  szB : acc.nb.size = I.ny
  lower : ∀ x y, done x y → elig I tr x y → ∃ d, acc.dmin = some d ∧ d ≤ slack I st x y
  wit : ∀ y, acc.nlxt.get y = true →
      ∃ d, acc.dmin = some d ∧ y < I.ny ∧ elig I tr (acc.nb.get y) y ∧ slack I st (acc.nb.get y) y = d ∧
        ∃ y', done (acc.nb.get y) y'
  att : ∀ d, acc.dmin = some d → ∃ x y, done x y ∧ elig I tr x y ∧ slack I st x y = d
  ne : ∀ d, acc.dmin = some d → ∃ y, y < I.ny ∧ acc.nlxt.get y = true

section scanStep
variable {I : Inp} {st : St} {tr : Tr} {done : Nat → Nat → Prop} {acc : Scan} {x y : Nat}

/-- the pair `(x, y)` does not beat the minimum so far, or is not eligible: nothing changes -/
theorem ScanInv.keep (h : ScanInv I st tr done acc)
    (hxy : elig I tr x y → ∃ d, acc.dmin = some d ∧ d ≤ slack I st x y) :
    ScanInv I st tr (fun x' y' => done x' y' ∨ (x' = x ∧ y' = y)) acc := by
  refine ⟨h.szN, h.szB, ?_, fun y' hy' => ?_, fun d hd => ?_, h.ne⟩
  · rintro x' y' (hd | ⟨rfl, rfl⟩) hel'
    · exact h.lower _ _ hd hel'
    · exact hxy hel'
  · obtain ⟨d, h1, h2, h3, h4, y'', h5⟩ := h.wit y' hy'
    exact ⟨d, h1, h2, h3, h4, y'', .inl h5⟩
  · obtain ⟨x', y', h1, h2⟩ := h.att d hd
    exact ⟨x', y', .inl h1, h2⟩

/-- the pair `(x, y)` attains the minimum: `y` joins the candidate columns `nl`, which are those of `acc` on a
    tie and none when the minimum is new -/
theorem ScanInv.add (h : ScanInv I st tr done acc) (hy : y < I.ny) (hel : elig I tr x y) {nl : Vec Bool}
    (hsz : nl.size = I.ny) (hmin : ∀ d, acc.dmin = some d → slack I st x y ≤ d)
    (hnl : ∀ y', nl.get y' = true → acc.nlxt.get y' = true ∧ acc.dmin = some (slack I st x y)) :
    ScanInv I st tr (fun x' y' => done x' y' ∨ (x' = x ∧ y' = y))
      { dmin := some (slack I st x y), nlxt := nl.set y true, nb := acc.nb.set y x } := by
  have hnb : (acc.nb.set y x).get y = x := Vec.get_set_self (by rw [h.szB]; exact hy) x
  refine ⟨by simp [hsz], by simp [h.szB], ?_, ?_, ?_,
    fun _ _ => ⟨y, hy, Vec.get_set_self (by rw [hsz]; exact hy) _⟩⟩
  · rintro x' y' (hdn | ⟨rfl, rfl⟩) hel'
    · obtain ⟨d, hd, hle⟩ := h.lower _ _ hdn hel'
      exact ⟨_, rfl, Int.le_trans (hmin d hd) hle⟩
    · exact ⟨_, rfl, Int.le_refl _⟩
  · intro y' hy'
    by_cases e : y' = y
    · subst e; exact ⟨_, rfl, hy, by simpa only [hnb] using hel, by simp only [hnb], y', .inr ⟨hnb, rfl⟩⟩
    · have hnb' : (acc.nb.set y x).get y' = acc.nb.get y' := Vec.get_set_ne _ (Ne.symm e) x
      obtain ⟨hy'', hd⟩ := hnl y' (by rw [Vec.get_set_ne _ (Ne.symm e)] at hy'; exact hy')
      obtain ⟨d, h1, h2, h3, h4, y'', h5⟩ := h.wit y' hy''
      cases hd.symm.trans h1
      simp only [hnb']; exact ⟨_, rfl, h2, h3, h4, y'', .inl h5⟩
  · rintro _ ⟨⟩; exact ⟨x, y, .inr ⟨rfl, rfl⟩, hel, rfl⟩
end scanStep

theorem scanStep_inv {I : Inp} {st : St} {tr : Tr} {x y : Nat} (hy : y < I.ny) (hs : tr.s.get x = true)
    {done : Nat → Nat → Prop} {acc : Scan} (h : ScanInv I st tr done acc) :
    ScanInv I st tr (fun x' y' => done x' y' ∨ (x' = x ∧ y' = y)) (scanStep I st tr x acc y) := by
  unfold scanStep
  split
  · next hc =>
    have hel : elig I tr x y := by
      simp only [Bool.and_eq_true, Bool.not_eq_true'] at hc
      exact ⟨hs, hc.1.1, hc.1.2, hc.2⟩
    dsimp only
    -- a new minimum empties the candidate columns
    have hnew := fun hmin => h.add hy hel (nl := Vec.const I.ny false) (by simp) hmin fun y' hy' =>
      absurd ((Vec.get_const_default I.ny y').symm.trans hy') Bool.false_ne_true
    split
    · next d hd =>
      split
      · next e =>
        have hd' : acc.dmin = some (slack I st x y) := hd.trans (congrArg some e.symm)
        rw [hd']
        exact h.add hy hel h.szN (fun _ h' => Int.le_of_eq (Option.some.inj (hd'.symm.trans h')))
          fun _ hy' => ⟨hy', hd'⟩
      · split
        · next hlt => exact hnew fun d' hd' => by cases hd.symm.trans hd'; exact Int.le_of_lt hlt
        · exact h.keep fun _ => ⟨d, hd, by simp only [slack]; omega⟩
    · next hd => exact hnew fun d' hd' => by simp [hd] at hd'
  · next hc =>
    refine h.keep fun hel => absurd ?_ hc
    obtain ⟨_, h2, h3, h4⟩ := hel
    simp [h2, h3, h4]


theorem ScanInv.mono {I : Inp} {st : St} {tr : Tr} {d1 d2 : Nat → Nat → Prop} {acc : Scan}
    (h : ScanInv I st tr d1 acc) (h12 : ∀ x y, d1 x y ↔ d2 x y) : ScanInv I st tr d2 acc :=
  (funext fun x => funext fun y => propext (h12 x y) : d1 = d2) ▸ h

theorem scanRow_inv {I : Inp} {st : St} {tr : Tr} (x : Nat) {done : Nat → Nat → Prop} {acc : Scan}
    (h : ScanInv I st tr done acc) :
    ScanInv I st tr (fun x' y' => done x' y' ∨ (x' = x ∧ y' < I.ny ∧ tr.s.get x' = true)) (scanRow I st tr acc x) := by
  unfold scanRow
  by_cases hs : tr.s.get x = true
  · rw [if_pos hs]
    -- columns `0 … n-1` of row `x` are done after `n` steps; the `mono`s only regroup the disjunctions
    refine (List.foldl_range_inv (scanStep I st tr x)
      (fun n acc => ScanInv I st tr (fun x' y' => done x' y' ∨ (x' = x ∧ y' < n)) acc) I.ny acc
      (h.mono fun x' y' => by simp)
      fun i b hi hb => (scanStep_inv hi hs hb).mono fun x' y' => by
        simp only [Nat.lt_succ_iff_lt_or_eq, and_or_left, or_assoc]).mono fun x' y' =>
      or_congr_right (and_congr_right fun e => (and_iff_left (e ▸ hs)).symm)
  · rw [if_neg hs]
    exact h.mono fun x' y' => (or_iff_left fun ⟨e, _, h⟩ => hs (e ▸ h)).symm

/-- `hempty` is a fact of the only call site: the scan runs when `findPos` found no candidate column -/
theorem scan_post (I : Inp) (st : St) (tr : Tr) (hN : tr.nlxt.size = I.ny) (hB : tr.nb.size = I.ny)
    (hempty : ∀ y, tr.nlxt.get y = false) :
    ScanInv I st tr (fun x y => x < I.nx ∧ y < I.ny ∧ tr.s.get x = true) (scan I st tr) :=
  List.foldl_range_inv (scanRow I st tr)
    (fun n acc => ScanInv I st tr (fun x y => x < n ∧ y < I.ny ∧ tr.s.get x = true) acc) I.nx
    { dmin := none, nlxt := tr.nlxt, nb := tr.nb }
    ⟨hN, hB, by intro x y h; omega, by intro y hy; simp [hempty y] at hy, by intro d hd; simp at hd,
      by intro d hd; simp at hd⟩
    fun i b _ hb => (scanRow_inv i hb).mono fun x y => by
      simp only [Nat.lt_succ_iff_lt_or_eq, or_and_right]

#print axioms scan_post

def InX (I : Inp) (x : Nat) : Prop := x < I.nx ∧ I.skipx.get x = false
def InY (I : Inp) (y : Nat) : Prop := y < I.ny ∧ I.skipy.get y = false
def tight (I : Inp) (st : St) (x y : Nat) : Prop := st.lx.get x + st.ly.get y = I.wt x y

/-- between any two steps: the labels are feasible on the allowed pairs of live rows and columns; every matched
    column is live, its row is live, the pair is allowed and tight; the matching is injective -/
structure OInv (I : Inp) (st : St) : Prop where
  szlx : st.lx.size = I.nx
  szly : st.ly.size = I.ny
  feas : ∀ x y, InX I x → InY I y → allowed I x y = true → I.wt x y ≤ st.lx.get x + st.ly.get y
  mrow : ∀ y, st.m.get y = true →
      InY I y ∧ InX I (st.mm.get y) ∧ allowed I (st.mm.get y) y = true ∧ tight I st (st.mm.get y) y
  minj : ∀ y1 y2, st.m.get y1 = true → st.m.get y2 = true → st.mm.get y1 = st.mm.get y2 → y1 = y2

/-- the alternating tree of the free row `u`: every row of `S` is `u` or the partner of a column of `T`, every
    column of `T` is matched with its partner in `S`, every candidate column (`nlxt`) lies outside `T` and is
    joined to `S` by an allowed tight edge through `nb` -/
structure TInv (I : Inp) (st : St) (u : Nat) (tr : Tr) : Prop where
  szN : tr.nlxt.size = I.ny
  szB : tr.nb.size = I.ny
  uX : InX I u
  ufree : ∀ y, st.m.get y = true → st.mm.get y ≠ u
  sS : ∀ x, tr.s.get x = true → x = u ∨ ∃ y, tr.t.get y = true ∧ st.mm.get y = x
  tT : ∀ y, tr.t.get y = true → st.m.get y = true ∧ tr.s.get (st.mm.get y) = true
  nl : ∀ y, tr.nlxt.get y = true →
      InY I y ∧ tr.t.get y = false ∧ tr.s.get (tr.nb.get y) = true ∧
        allowed I (tr.nb.get y) y = true ∧ tight I st (tr.nb.get y) y

theorem TInv.sX {I : Inp} {st : St} {u : Nat} {tr : Tr} (ho : OInv I st) (h : TInv I st u tr)
    {x : Nat} (hx : tr.s.get x = true) : InX I x := by
  rcases h.sS x hx with rfl | ⟨y, hy, rfl⟩
  · exact h.uX
  · exact (ho.mrow y (h.tT y hy).1).2.1

theorem TInv.tY {I : Inp} {st : St} {u : Nat} {tr : Tr} (ho : OInv I st) (h : TInv I st u tr) {y : Nat}
    (hy : tr.t.get y = true) :
    InY I y ∧ InX I (st.mm.get y) ∧ allowed I (st.mm.get y) y = true ∧ tight I st (st.mm.get y) y :=
  ho.mrow y (h.tT y hy).1

theorem TInv.fresh {I : Inp} {st : St} {u : Nat} {tr : Tr} (ho : OInv I st) (ht : TInv I st u tr)
    {y : Nat} (hm : st.m.get y = true) (hty : tr.t.get y = false) : tr.s.get (st.mm.get y) = false := by
  refine Bool.eq_false_iff.2 fun hs => ?_
  rcases ht.sS _ hs with hu | ⟨y', hy', hmm⟩
  · exact absurd hu (ht.ufree y hm)
  · cases ho.minj y' y (ht.tT y' hy').1 hm hmm; simp [hty] at hy'

/-- the state after a label update by `d` (hungarian.rs:174-175) -/
def relabel (I : Inp) (st : St) (tr : Tr) (d : Int) : St :=
  { st with lx := Vec.tab I.nx (fun x => if tr.s.get x then st.lx.get x - d else st.lx.get x),
            ly := Vec.tab I.ny (fun y => if tr.t.get y then st.ly.get y + d else st.ly.get y) }

theorem relabel_lx {I : Inp} {st : St} {tr : Tr} {d : Int} {x : Nat} (hx : x < I.nx) :
    (relabel I st tr d).lx.get x = if tr.s.get x then st.lx.get x - d else st.lx.get x := by
  simp [relabel, Vec.get_tab, hx]
theorem relabel_ly {I : Inp} {st : St} {tr : Tr} {d : Int} {y : Nat} (hy : y < I.ny) :
    (relabel I st tr d).ly.get y = if tr.t.get y then st.ly.get y + d else st.ly.get y := by
  simp [relabel, Vec.get_tab, hy]

theorem relabel_tight {I : Inp} {st : St} {tr : Tr} (d : Int) {x y : Nat} (hx : x < I.nx) (hy : y < I.ny)
    (hti : tight I st x y) (hiff : tr.s.get x = true ↔ tr.t.get y = true) :
    tight I (relabel I st tr d) x y := by
  simp only [tight, relabel_lx hx, relabel_ly hy] at *
  by_cases hs : tr.s.get x = true
  · have := hiff.1 hs; simp [hs, this]; omega
  · have : ¬ tr.t.get y = true := fun h => hs (hiff.2 h)
    simp [hs, this]; exact hti

/-- the minimal slack is attained by an eligible pair, hence non-negative by feasibility of the labels -/
theorem dmin_nonneg {I : Inp} {st : St} {u : Nat} {tr : Tr} (ho : OInv I st) (ht : TInv I st u tr)
    (hempty : ∀ y, tr.nlxt.get y = false) {d : Int} (hd : (scan I st tr).dmin = some d) : 0 ≤ d := by
  obtain ⟨x, y, ⟨_, hy, _⟩, ⟨hs, _, hsk, hal⟩, hsl⟩ := (scan_post I st tr ht.szN ht.szB hempty).att d hd
  have := ho.feas x y (ht.sX ho hs) ⟨hy, hsk⟩ hal
  simp only [slack] at hsl; omega

theorem label_update (I : Inp) (st : St) (u : Nat) (tr : Tr) (ho : OInv I st) (ht : TInv I st u tr)
    (hempty : ∀ y, tr.nlxt.get y = false) (d : Int) (hd : (scan I st tr).dmin = some d) :
    OInv I (relabel I st tr d) ∧
    TInv I (relabel I st tr d) u { tr with nlxt := (scan I st tr).nlxt, nb := (scan I st tr).nb } := by
  have sp := scan_post I st tr ht.szN ht.szB hempty
  have hd0 := dmin_nonneg ho ht hempty hd
  refine ⟨⟨by simp [relabel], by simp [relabel], ?_, ?_, ho.minj⟩, ⟨sp.szN, sp.szB, ht.uX, ht.ufree, ht.sS, ht.tT, ?_⟩⟩
  · intro x y hx hy hal
    have hf := ho.feas x y hx hy hal
    rw [relabel_lx hx.1, relabel_ly hy.1]
    by_cases hs : tr.s.get x = true <;> by_cases htt : tr.t.get y = true
    · simp [hs, htt]; omega
    · -- an eligible pair: its slack is at least the minimum `d`
      obtain ⟨d', hd', hle⟩ := sp.lower x y ⟨hx.1, hy.1, hs⟩ ⟨hs, by simpa using htt, hy.2, hal⟩
      cases hd.symm.trans hd'
      simp only [slack] at hle
      simp [hs, htt]; omega
    · simp [hs, htt]; omega
    · simp [hs, htt]; exact hf
  · intro y hm
    have hm' : st.m.get y = true := hm
    obtain ⟨hy, hx, hal, hti⟩ := ho.mrow y hm'
    refine ⟨hy, hx, hal, ?_⟩
    apply relabel_tight d hx.1 hy.1 hti
    constructor
    · exact fun hs => Bool.of_not_eq_false fun htt => by simp [ht.fresh ho hm' htt] at hs
    · intro htt; exact (ht.tT y htt).2
  · intro y hy
    obtain ⟨d', hd', hlt, ⟨hs, htf, hsk, hal⟩, hsl, _⟩ := sp.wit y hy
    rw [hd] at hd'; cases hd'
    have hxX := ht.sX ho hs
    refine ⟨⟨hlt, hsk⟩, htf, hs, hal, ?_⟩
    simp only [tight, relabel_lx hxX.1, relabel_ly hlt, hs, htf]
    simp only [slack] at hsl
    simp
    omega

#print axioms label_update

/-! ### augmentation along the alternating path (hungarian.rs:215-227) -/

/-- parent structure of the alternating tree, with a rank that decreases towards the root -/
structure PInv (I : Inp) (st : St) (u : Nat) (tr : Tr) (rk : Nat → Nat) : Prop where
  tpar : ∀ y, tr.t.get y = true →
      tr.s.get (tr.tPar.get y) = true ∧ allowed I (tr.tPar.get y) y = true ∧ tight I st (tr.tPar.get y) y
  spar : ∀ x, tr.s.get x = true → x ≠ u → tr.t.get (tr.sPar.get x) = true ∧ st.mm.get (tr.sPar.get x) = x
  rkdec : ∀ x, tr.s.get x = true → x ≠ u → rk (tr.tPar.get (tr.sPar.get x)) < rk x

/-- columns matched after the augmentation -/
def M' (st : St) (y0 : Nat) (c : Nat) : Prop := st.m.get c = true ∨ c = y0

/-- during the walk back to the root, about to write `xx` into the hole column `yy`: off the hole the matching
    `mmc` is injective, avoids `u` and is good; `low`: the old partner columns of all rows of rank at most that
    of `xx` are untouched; `hole`: the hole was unmatched or belonged to a row of larger rank -/
structure AugPre (I : Inp) (st : St) (u : Nat) (tr : Tr) (rk : Nat → Nat) (y0 yy xx : Nat) (mmc : Vec Nat) : Prop where
  sz : mmc.size = I.ny
  inj : ∀ c1 c2, M' st y0 c1 → M' st y0 c2 → c1 ≠ yy → c2 ≠ yy → mmc.get c1 = mmc.get c2 → c1 = c2
  nou : ∀ c, M' st y0 c → c ≠ yy → mmc.get c ≠ u
  good : ∀ c, M' st y0 c → c ≠ yy →
      InY I c ∧ InX I (mmc.get c) ∧ allowed I (mmc.get c) c = true ∧ tight I st (mmc.get c) c
  rows : ∀ c, M' st y0 c → c ≠ yy → mmc.get c = u ∨ ∃ c0, st.m.get c0 = true ∧ st.mm.get c0 = mmc.get c
  cur : tr.s.get xx = true ∧ M' st y0 yy ∧ InY I yy ∧ allowed I xx yy = true ∧ tight I st xx yy
  low : ∀ x, tr.s.get x = true → x ≠ u → rk x ≤ rk xx → mmc.get (tr.sPar.get x) = x
  hole : st.m.get yy = false ∨ rk xx < rk (st.mm.get yy)

structure AugPost (I : Inp) (st : St) (u y0 : Nat) (mm' : Vec Nat) : Prop where
  sz : mm'.size = I.ny
  rows : ∀ c, M' st y0 c → mm'.get c = u ∨ ∃ c0, st.m.get c0 = true ∧ st.mm.get c0 = mm'.get c
  inj : ∀ c1 c2, M' st y0 c1 → M' st y0 c2 → mm'.get c1 = mm'.get c2 → c1 = c2
  good : ∀ c, M' st y0 c →
      InY I c ∧ InX I (mm'.get c) ∧ allowed I (mm'.get c) c = true ∧ tight I st (mm'.get c) c

theorem augment_correct (I : Inp) (st : St) (u : Nat) (tr : Tr) (rk : Nat → Nat) (y0 : Nat)
    (ho : OInv I st) (ht : TInv I st u tr) (hp : PInv I st u tr rk) :
    ∀ (fuel yy xx : Nat) (mmc mm' : Vec Nat), AugPre I st u tr rk y0 yy xx mmc →
      augment u tr fuel yy xx mmc = some mm' → AugPost I st u y0 mm' := by
  intro fuel
  induction fuel with
  | zero => intro yy xx mmc mm' _ h; simp [augment] at h
  | succ fuel ih =>
    intro yy xx mmc mm' pre h
    simp only [augment] at h
    have hyy : yy < mmc.size := by rw [pre.sz]; exact pre.cur.2.2.1.1
    have get1 : ∀ c, (mmc.set yy xx).get c = if c = yy then xx else mmc.get c := Vec.get_set_of_lt hyy xx
    obtain ⟨hsx, hMyy, hYyy, halx, htix⟩ := pre.cur
    -- after the write every column of `M'` holds a good entry, whose row is `u` or was matched before
    have good1 : ∀ c, M' st y0 c → InY I c ∧ InX I ((mmc.set yy xx).get c) ∧
        allowed I ((mmc.set yy xx).get c) c = true ∧ tight I st ((mmc.set yy xx).get c) c := by
      intro c hc
      rw [get1]
      by_cases e : c = yy
      · subst e; simp only [if_true]; exact ⟨hYyy, ht.sX ho hsx, halx, htix⟩
      · simp only [e, if_false]; exact pre.good c hc e
    have rows1 : ∀ c, M' st y0 c →
        (mmc.set yy xx).get c = u ∨ ∃ c0, st.m.get c0 = true ∧ st.mm.get c0 = (mmc.set yy xx).get c := by
      intro c hc
      rw [get1]
      by_cases e : c = yy
      · simp only [e, if_true]
        rcases ht.sS xx hsx with hu | ⟨y, hy, hmm⟩
        · exact .inl hu
        · exact .inr ⟨y, (ht.tT y hy).1, hmm⟩
      · simp only [e, if_false]; exact pre.rows c hc e
    -- two columns with the same entry coincide, unless one of them is `yy` and the other held `xx` before
    have inj1 : ∀ c1 c2, M' st y0 c1 → M' st y0 c2 → (mmc.set yy xx).get c1 = (mmc.set yy xx).get c2 →
        c1 = c2 ∨ ∃ c, M' st y0 c ∧ c ≠ yy ∧ mmc.get c = xx ∧ (c = c1 ∨ c = c2) := by
      intro c1 c2 h1 h2 heq
      rw [get1, get1] at heq
      by_cases e1 : c1 = yy <;> by_cases e2 : c2 = yy
      · exact .inl (e1.trans e2.symm)
      · simp only [e1, e2, if_true, if_false] at heq; exact .inr ⟨c2, h2, e2, heq.symm, .inr rfl⟩
      · simp only [e1, e2, if_true, if_false] at heq; exact .inr ⟨c1, h1, e1, heq, .inl rfl⟩
      · simp only [e1, e2, if_false] at heq; exact .inl (pre.inj c1 c2 h1 h2 e1 e2 heq)
    by_cases hxu : xx = u
    · -- reached the root: done, since no other column holds `u`
      subst hxu
      simp only [if_true] at h
      cases h
      refine ⟨by simp [pre.sz], rows1, fun c1 c2 h1 h2 heq => ?_, good1⟩
      rcases inj1 c1 c2 h1 h2 heq with e | ⟨c, hc, e, hx, _⟩
      · exact e
      · exact absurd hx (pre.nou c hc e)
    · -- continue with the old partner column of xx, the only other column that holds `xx`
      simp only [hxu, if_false] at h
      obtain ⟨htyy', hmmyy'⟩ := hp.spar xx hsx hxu
      obtain ⟨hmyy', _⟩ := ht.tT _ htyy'
      obtain ⟨hsx', hal', hti'⟩ := hp.tpar _ htyy'
      have hrk := hp.rkdec xx hsx hxu
      -- the partner column of a row not above `xx` is not the hole `yy`
      have hne : ∀ x, tr.s.get x = true → x ≠ u → rk x ≤ rk xx → tr.sPar.get x ≠ yy := by
        intro x hx hxu' hle e
        obtain ⟨htx, hmmx⟩ := hp.spar x hx hxu'
        rcases pre.hole with hm | hr
        · have := (ht.tT _ htx).1; rw [e, hm] at this; cases this
        · rw [e] at hmmx; rw [hmmx] at hr; omega
      have hnexx := hne xx hsx hxu (Nat.le_refl _)
      have hold : mmc.get (tr.sPar.get xx) = xx := pre.low xx hsx hxu (Nat.le_refl _)
      apply ih (tr.sPar.get xx) (tr.tPar.get (tr.sPar.get xx)) (mmc.set yy xx) mm' ?_ h
      refine ⟨by simp [pre.sz], fun c1 c2 h1 h2 n1 n2 heq => ?_, fun c hc n => ?_, fun c hc _ => good1 c hc,
        fun c hc _ => rows1 c hc, ⟨hsx', .inl hmyy', (ho.mrow _ hmyy').1, hal', hti'⟩, fun x hx hxu' hle => ?_,
        .inr (by rw [hmmyy']; exact hrk)⟩
      · rcases inj1 c1 c2 h1 h2 heq with e | ⟨c, hc, e, hx, hcc⟩
        · exact e
        · have := pre.inj c (tr.sPar.get xx) hc (.inl hmyy') e hnexx (hx.trans hold.symm)
          rcases hcc with rfl | rfl
          · exact absurd this n1
          · exact absurd this n2
      · rw [get1]
        by_cases e : c = yy
        · simp only [e, if_true]; exact hxu
        · simp only [e, if_false]; exact pre.nou c hc e
      · rw [get1, if_neg (hne x hx hxu' (by omega))]
        exact pre.low x hx hxu' (by omega)

#print axioms augment_correct

/-! ### growing the alternating tree by a matched column (hungarian.rs:183-211) -/

structure TSz (I : Inp) (tr : Tr) : Prop where
  szS : tr.s.size = I.nx
  szT : tr.t.size = I.ny
  szSP : tr.sPar.size = I.nx
  szTP : tr.tPar.size = I.ny

def newN (I : Inp) (st : St) (t' : Vec Bool) (z : Nat) (y' : Nat) : Bool :=
  (!I.skipy.get y' && !t'.get y') && (if I.dummy.get z then !I.mand.get y' else true)
    && (I.wt z y' == st.ly.get y' + st.lx.get z)

/-- the tree after adding the matched column `y` and its partner (same expression as in `grow`) -/
def growTr (I : Inp) (st : St) (tr : Tr) (y : Nat) : Tr :=
  let z := st.mm.get y
  let t' := tr.t.set y true
  let nlxt1 := tr.nlxt.set y false
  { t := t', tPar := tr.tPar.set y (tr.nb.get y), s := tr.s.set z true, sPar := tr.sPar.set z y,
    nlxt := Vec.tab I.ny (fun y' => nlxt1.get y' || newN I st t' z y'),
    nb := Vec.tab I.ny (fun y' => if newN I st t' z y' then z else tr.nb.get y') }

section growTr
variable {I : Inp} {st : St} {tr : Tr} {y : Nat} (hz : TSz I tr)
include hz

theorem growTr_s (hlt : st.mm.get y < I.nx) (x : Nat) :
    (growTr I st tr y).s.get x = true ↔ x = st.mm.get y ∨ tr.s.get x = true :=
  Vec.get_set_true (hz.szS ▸ hlt) x

theorem growTr_t (hlt : y < I.ny) (y' : Nat) :
    (growTr I st tr y).t.get y' = true ↔ y' = y ∨ tr.t.get y' = true :=
  Vec.get_set_true (hz.szT ▸ hlt) y'

theorem growTr_sPar (hlt : st.mm.get y < I.nx) (x : Nat) :
    (growTr I st tr y).sPar.get x = if x = st.mm.get y then y else tr.sPar.get x :=
  Vec.get_set_of_lt (hz.szSP ▸ hlt) y x

theorem growTr_tPar (hlt : y < I.ny) (y' : Nat) :
    (growTr I st tr y).tPar.get y' = if y' = y then tr.nb.get y else tr.tPar.get y' :=
  Vec.get_set_of_lt (hz.szTP ▸ hlt) _ y'
end growTr

/-! One iteration of the inner loop is `pick` (choose a column, after a label update if there is no
    candidate) followed by `tail` (extend the tree through a matched column, or augment). -/

/-- the choice of the next column in `grow` (the `r` of the model) -/
def pick (I : Inp) (st : St) (tr : Tr) : Option (St × Tr × Nat) :=
  match findPos I.ny tr.nlxt.get with
  | some y => some (st, tr, y)
  | none =>
    match (scan I st tr).dmin with
    | none => none
    | some d =>
      match findPos I.ny (scan I st tr).nlxt.get with
      | none => none
      | some y =>
        some (relabel I st tr d, { tr with nlxt := (scan I st tr).nlxt, nb := (scan I st tr).nb }, y)

/-- the rest of one iteration of `grow`, given the continuation -/
def tail (I : Inp) (u : Nat) (k : St → Tr → Option St) (st : St) (tr : Tr) (y : Nat) : Option St :=
  if st.m.get y then k st (growTr I st tr y)
  else
    match augment u tr (I.ny + 1) y (tr.nb.get y) st.mm with
    | none => none
    | some mm => some { st with m := st.m.set y true, mm := mm }

theorem tail_eq_some {I : Inp} {u : Nat} {k : St → Tr → Option St} {st st' : St} {tr : Tr} {y : Nat} :
    tail I u k st tr y = some st' ↔
      (st.m.get y = true ∧ k st (growTr I st tr y) = some st') ∨
      (st.m.get y = false ∧ ∃ mm, augment u tr (I.ny + 1) y (tr.nb.get y) st.mm = some mm ∧
        st' = { st with m := st.m.set y true, mm := mm }) := by
  unfold tail
  cases hm : st.m.get y with
  | true => simp
  | false =>
    cases augment u tr (I.ny + 1) y (tr.nb.get y) st.mm with
    | none => simp
    | some mm => simp [eq_comm]

theorem grow_succ (I : Inp) (u fuel : Nat) (st : St) (tr : Tr) :
    grow I u (fuel + 1) st tr =
      match pick I st tr with
      | none => none
      | some (st1, tr1, y) => tail I u (grow I u fuel) st1 tr1 y := rfl

theorem growth_step (I : Inp) (st : St) (u : Nat) (tr : Tr) (rk : Nat → Nat) (y : Nat)
    (ho : OInv I st) (ht : TInv I st u tr) (hp : PInv I st u tr rk) (hz : TSz I tr)
    (hy : tr.nlxt.get y = true) (hm : st.m.get y = true) :
    TInv I st u (growTr I st tr y) ∧
    PInv I st u (growTr I st tr y) (fun x => if x = st.mm.get y then rk (tr.nb.get y) + 1 else rk x) ∧
    TSz I (growTr I st tr y) := by
  obtain ⟨hyY, hty, hsnb, halnb, htinb⟩ := ht.nl y hy
  have hzX := (ho.mrow y hm).2.1
  have hynY := hyY.1
  have hzfresh : tr.s.get (st.mm.get y) = false := ht.fresh ho hm hty
  have gs := growTr_s (y := y) hz hzX.1
  have gt := growTr_t (st := st) hz hynY
  have gsp := growTr_sPar (y := y) hz hzX.1
  have gtp := growTr_tPar (st := st) hz hynY
  have smono : ∀ {x}, tr.s.get x = true → (growTr I st tr y).s.get x = true := fun h => (gs _).2 (.inr h)
  have snew : (growTr I st tr y).s.get (st.mm.get y) = true := (gs _).2 (.inl rfl)
  have tmono : ∀ {y'}, tr.t.get y' = true → (growTr I st tr y).t.get y' = true := fun h => (gt _).2 (.inr h)
  have tnew : (growTr I st tr y).t.get y = true := (gt _).2 (.inl rfl)
  have sold : ∀ {x}, tr.s.get x = true → x ≠ st.mm.get y := fun h e => by rw [e, hzfresh] at h; cases h
  have told : ∀ {y'}, tr.t.get y' = true → y' ≠ y := fun h e => by rw [e, hty] at h; cases h
  refine ⟨⟨by simp [growTr], by simp [growTr], ht.uX, ht.ufree, ?_, ?_, ?_⟩, ⟨?_, ?_, ?_⟩,
    ⟨by simp [growTr, hz.szS], by simp [growTr, hz.szT], by simp [growTr, hz.szSP], by simp [growTr, hz.szTP]⟩⟩
  · intro x hx
    rcases (gs x).1 hx with rfl | hx
    · exact .inr ⟨y, tnew, rfl⟩
    · rcases ht.sS x hx with hu | ⟨y', hy', hmm⟩
      · exact .inl hu
      · exact .inr ⟨y', tmono hy', hmm⟩
  · intro y' hy'
    rcases (gt y').1 hy' with rfl | hy'
    · exact ⟨hm, snew⟩
    · exact ⟨(ht.tT y' hy').1, smono (ht.tT y' hy').2⟩
  · intro y' hy'
    simp only [growTr, Vec.get_tab] at hy' ⊢
    by_cases hlt : y' < I.ny
    · simp only [hlt, if_true] at hy' ⊢
      by_cases hn : newN I st (tr.t.set y true) (st.mm.get y) y' = true
      · simp only [hn, if_true]
        simp only [newN, Bool.and_eq_true, Bool.not_eq_true', beq_iff_eq] at hn
        obtain ⟨⟨⟨hsk, htf⟩, hdm⟩, hw⟩ := hn
        refine ⟨⟨hlt, hsk⟩, htf, snew, ?_, ?_⟩
        · simp only [allowed]
          by_cases hd : I.dummy.get (st.mm.get y) = true
          · simp [hd] at hdm; simp [hd, hdm]
          · simp [hd]
        · simp only [tight]; omega
      · have hn' : newN I st (tr.t.set y true) (st.mm.get y) y' = false := by simpa using hn
        simp only [hn', Bool.or_false, Bool.false_eq_true, if_false] at hy' ⊢
        rw [Vec.get_set_of_lt (ht.szN ▸ hynY)] at hy'
        have hne : y' ≠ y := fun e => by simp [e] at hy'
        rw [if_neg hne] at hy'
        obtain ⟨h1, h2, h3, h4, h5⟩ := ht.nl y' hy'
        refine ⟨h1, ?_, smono h3, h4, h5⟩
        exact Bool.eq_false_iff.2 fun h => ((gt y').1 h).elim hne (by simp [h2])
    · simp [hlt] at hy'
  · intro y' hy'
    rw [gtp]
    rcases (gt y').1 hy' with rfl | hy'
    · rw [if_pos rfl]; exact ⟨smono hsnb, halnb, htinb⟩
    · rw [if_neg (told hy')]
      obtain ⟨h1, h2, h3⟩ := hp.tpar y' hy'
      exact ⟨smono h1, h2, h3⟩
  · intro x hx hxu
    rw [gsp]
    rcases (gs x).1 hx with rfl | hx
    · rw [if_pos rfl]; exact ⟨tnew, rfl⟩
    · rw [if_neg (sold hx)]
      exact ⟨tmono (hp.spar x hx hxu).1, (hp.spar x hx hxu).2⟩
  · intro x hx hxu
    rw [gsp]
    rcases (gs x).1 hx with rfl | hx
    · simp only [if_true]
      rw [gtp]; simp only [if_true]
      simp [sold hsnb]
    · simp only [sold hx, if_false]
      obtain ⟨h1, h2⟩ := hp.spar x hx hxu
      rw [gtp]; simp only [told h1, if_false]
      simp only [sold (hp.tpar _ h1).1, if_false]
      exact hp.rkdec x hx hxu

#print axioms growth_step

theorem findPos_go_spec (p : Nat → Bool) : ∀ (fuel i : Nat),
    match findPos.go p i fuel with
    | some y => i ≤ y ∧ y < i + fuel ∧ p y = true
    | none => ∀ y, i ≤ y → y < i + fuel → p y = false := by
  intro fuel
  induction fuel with
  | zero => intro i y h1 h2; omega
  | succ fuel ih =>
    intro i
    rw [findPos.go]
    by_cases hp : p i = true
    · rw [if_pos hp]; exact ⟨Nat.le_refl _, by omega, hp⟩
    · rw [if_neg hp]
      have := ih (i + 1)
      cases hgo : findPos.go p (i + 1) fuel with
      | some y => rw [hgo] at this; exact ⟨by omega, by omega, this.2.2⟩
      | none =>
        rw [hgo] at this
        intro y h1 h2
        by_cases e : y = i
        · subst e; simpa using hp
        · exact this y (by omega) (by omega)

theorem findPos_some {n : Nat} {p : Nat → Bool} {y : Nat} (h : findPos n p = some y) : y < n ∧ p y = true := by
  have := findPos_go_spec p n 0
  rw [show findPos.go p 0 n = some y from h] at this
  exact ⟨by omega, this.2.2⟩

theorem findPos_none {n : Nat} {p : Nat → Bool} (h : findPos n p = none) (y : Nat) (hy : y < n) : p y = false := by
  have := findPos_go_spec p n 0
  rw [show findPos.go p 0 n = none from h] at this
  exact this y (Nat.zero_le _) (by omega)

theorem nlxt_empty {I : Inp} {tr : Tr} (hN : tr.nlxt.size = I.ny)
    (hf : findPos I.ny tr.nlxt.get = none) (y : Nat) : tr.nlxt.get y = false := by
  by_cases hy : y < I.ny
  · exact findPos_none hf y hy
  · rw [Vec.get_of_size_le (by omega)]; rfl

/-- what one run of the inner loop achieves: exactly one more matched column -/
structure GrowPost (I : Inp) (st : St) (u : Nat) (st' : St) : Prop where
  inv : OInv I st'
  szmm : st'.mm.size = I.ny
  ex : ∃ y0, st.m.get y0 = false ∧ InY I y0 ∧ st'.m = st.m.set y0 true ∧
      (∀ c, M' st y0 c → st'.mm.get c = u ∨ ∃ c0, st.m.get c0 = true ∧ st.mm.get c0 = st'.mm.get c)

theorem pick_eq_some {I : Inp} {st st1 : St} {tr tr1 : Tr} {y : Nat} (hN : tr.nlxt.size = I.ny)
    (h : pick I st tr = some (st1, tr1, y)) :
    tr1.nlxt.get y = true ∧
    ((st1 = st ∧ tr1 = tr) ∨
      ∃ d, (∀ y, tr.nlxt.get y = false) ∧ (scan I st tr).dmin = some d ∧ st1 = relabel I st tr d ∧
        tr1 = { tr with nlxt := (scan I st tr).nlxt, nb := (scan I st tr).nb }) := by
  unfold pick at h
  split at h
  · next hf => cases h; exact ⟨(findPos_some hf).2, .inl ⟨rfl, rfl⟩⟩
  · next hf =>
    split at h
    · cases h
    · next d hd =>
      split at h
      · cases h
      · next hf2 => cases h; exact ⟨(findPos_some hf2).2, .inr ⟨d, nlxt_empty hN hf, hd, rfl, rfl⟩⟩

/-- `pick` keeps the invariants of the inner loop; it changes only the labels and `nlxt`, `nb`, so whatever
    speaks of `m`, `mm`, `s`, `t` alone carries over as it stands -/
theorem pick_inv {I : Inp} {st st1 : St} {u : Nat} {tr tr1 : Tr} {rk : Nat → Nat} {y : Nat}
    (ho : OInv I st) (ht : TInv I st u tr) (hp : PInv I st u tr rk) (hz : TSz I tr)
    (h : pick I st tr = some (st1, tr1, y)) :
    ∃ lx ly nl nb, st1 = { st with lx := lx, ly := ly } ∧ tr1 = { tr with nlxt := nl, nb := nb } ∧
      OInv I st1 ∧ TInv I st1 u tr1 ∧ PInv I st1 u tr1 rk ∧ TSz I tr1 ∧ tr1.nlxt.get y = true := by
  obtain ⟨hy, ⟨rfl, rfl⟩ | ⟨d, he, hd, rfl, rfl⟩⟩ := pick_eq_some ht.szN h
  · exact ⟨_, _, _, _, rfl, rfl, ho, ht, hp, hz, hy⟩
  · obtain ⟨ho', ht'⟩ := label_update I st u tr ho ht he d hd
    refine ⟨_, _, _, _, rfl, rfl, ho', ht', ⟨fun y' hy' => ?_, hp.spar, hp.rkdec⟩, ⟨hz.1, hz.2, hz.3, hz.4⟩, hy⟩
    -- a tree edge has both ends in the tree
    obtain ⟨h1, h2, h3⟩ := hp.tpar y' hy'
    exact ⟨h1, h2, relabel_tight d (ht.sX ho h1).1 (ht.tY ho hy').1.1 h3 ⟨fun _ => hy', fun _ => h1⟩⟩

theorem M'_of_set {st : St} {y c : Nat} (hc : (st.m.set y true).get c = true) : M' st y c := by
  by_cases e : y = c
  · exact .inr e.symm
  · exact .inl (by rwa [Vec.get_set_ne _ e] at hc)

theorem augment_growPost {I : Inp} {st : St} {u : Nat} {tr : Tr} {rk : Nat → Nat} {y : Nat} {mm' : Vec Nat}
    (ho : OInv I st) (ht : TInv I st u tr) (hp : PInv I st u tr rk) (hmm : st.mm.size = I.ny)
    (hy : tr.nlxt.get y = true) (hm : st.m.get y = false)
    (haug : augment u tr (I.ny + 1) y (tr.nb.get y) st.mm = some mm') :
    GrowPost I st u { st with m := st.m.set y true, mm := mm' } := by
  obtain ⟨hyY, hty, hsnb, halnb, htinb⟩ := ht.nl y hy
  -- before the walk, every column other than `y` is matched as in `st`
  have old : ∀ {c}, M' st y c → c ≠ y → st.m.get c = true := fun h n => h.resolve_right n
  have pre : AugPre I st u tr rk y y (tr.nb.get y) st.mm :=
    ⟨hmm, fun c1 c2 h1 h2 n1 n2 => ho.minj c1 c2 (old h1 n1) (old h2 n2),
      fun c h n => ht.ufree c (old h n), fun c h n => ho.mrow c (old h n),
      fun c h n => .inr ⟨c, old h n, rfl⟩, ⟨hsnb, .inr rfl, hyY, halnb, htinb⟩,
      fun x hx hxu _ => (hp.spar x hx hxu).2, .inl hm⟩
  have post := augment_correct I st u tr rk y ho ht hp (I.ny + 1) y (tr.nb.get y) st.mm mm' pre haug
  exact ⟨⟨ho.szlx, ho.szly, ho.feas, fun c hc => post.good c (M'_of_set hc),
      fun c1 c2 h1 h2 => post.inj c1 c2 (M'_of_set h1) (M'_of_set h2)⟩,
    post.sz, y, hm, hyY, rfl, post.rows⟩

theorem grow_correct (I : Inp) (u : Nat) :
    ∀ (fuel : Nat) (st : St) (tr : Tr) (rk : Nat → Nat) (st' : St),
      OInv I st → TInv I st u tr → PInv I st u tr rk → TSz I tr → st.mm.size = I.ny →
      grow I u fuel st tr = some st' → GrowPost I st u st' := by
  intro fuel
  induction fuel with
  | zero => intro st tr rk st' _ _ _ _ _ h; simp [grow] at h
  | succ fuel ih =>
    intro st tr rk st' ho ht hp hz hmm h
    rw [grow_succ] at h
    split at h
    · cases h
    · next st1 tr1 y hpk =>
      obtain ⟨lx, ly, nl, nb, rfl, rfl, ho1, ht1, hp1, hz1, hy⟩ := pick_inv ho ht hp hz hpk
      -- `GrowPost` speaks of `m`, `mm` only, which `pick` leaves alone
      suffices r : GrowPost I { st with lx := lx, ly := ly } u st' from ⟨r.inv, r.szmm, r.ex⟩
      rcases tail_eq_some.1 h with ⟨hm, h⟩ | ⟨hm, mm', haug, rfl⟩
      · obtain ⟨a, b, c⟩ := growth_step I _ u _ rk y ho1 ht1 hp1 hz1 hy hm
        exact ih _ _ _ st' ho1 a b c hmm h
      · exact augment_growPost ho1 ht1 hp1 hmm hy hm haug

#print axioms grow_correct

/-! ### initial tree and the outer loop (hungarian.rs:115-138) -/

theorem initTr_s {I : Inp} {st : St} {u : Nat} (hu : u < I.nx) {x : Nat} :
    (initTr I st u).s.get x = true ↔ x = u :=
  (Vec.get_set_true (by simpa using hu) x).trans
    (or_iff_left fun h => Bool.false_ne_true ((Vec.get_const_default I.nx x).symm.trans h))

structure OutInv (I : Inp) (free : List Nat) (st : St) : Prop where
  inv : OInv I st
  szm : st.m.size = I.ny
  szmm : st.mm.size = I.ny
  rowsDone : ∀ y, st.m.get y = true → st.mm.get y ∉ free

theorem initTr_inv {I : Inp} {st : St} {u : Nat} {rest : List Nat} (h : OutInv I (u :: rest) st) (hu : InX I u) :
    TInv I st u (initTr I st u) ∧ PInv I st u (initTr I st u) (fun _ => 0) ∧ TSz I (initTr I st u) := by
  have hfree : ∀ y, st.m.get y = true → st.mm.get y ≠ u := fun y hy e => h.rowsDone y hy (e ▸ List.mem_cons_self)
  have gs : ∀ {x}, (initTr I st u).s.get x = true → x = u := (initTr_s hu.1).1
  have gt : ∀ y, (initTr I st u).t.get y = false := Vec.get_const_default I.ny
  refine ⟨⟨by simp [initTr], by simp [initTr], hu, hfree, ?_, ?_, ?_⟩, ⟨?_, ?_, ?_⟩,
    ⟨by simp [initTr], by simp [initTr], by simp [initTr], by simp [initTr]⟩⟩
  · intro x hx; exact .inl (gs hx)
  · intro y hy; rw [gt] at hy; cases hy
  · intro y hy
    simp only [initTr, Vec.get_tab] at hy
    by_cases hlt : y < I.ny
    · simp only [hlt, if_true, Bool.and_eq_true, Bool.not_eq_true', beq_iff_eq] at hy
      obtain ⟨hsk, hw, hdm⟩ := hy
      have hnb : (initTr I st u).nb.get y = u := by simp [initTr, Vec.get_const, hlt]
      refine ⟨⟨hlt, hsk⟩, gt y, by rw [hnb]; exact (initTr_s hu.1).2 rfl, ?_, ?_⟩
      · rw [hnb]; simpa only [allowed, Bool.not_eq_true'] using hdm
      · rw [hnb]; simp only [tight]; omega
    · simp [hlt] at hy
  · intro y hy; rw [gt] at hy; cases hy
  · intro x hx hxu; exact absurd (gs hx) hxu
  · intro x hx hxu; exact absurd (gs hx) hxu

theorem phase_outInv {I : Inp} {u : Nat} {rest : List Nat} {st st1 : St} (h : OutInv I (u :: rest) st)
    (hu : InX I u) (hnd : u ∉ rest) (hg : grow I u (I.ny + 1) st (initTr I st u) = some st1) :
    OutInv I rest st1 ∧ ∃ y0, st.m.get y0 = false ∧ y0 < I.ny ∧
      ∀ y, st1.m.get y = true ↔ (st.m.get y = true ∨ y = y0) := by
  obtain ⟨a, b, c⟩ := initTr_inv h hu
  obtain ⟨hinv1, hsz1, y0, hy0, hy0Y, hm1, hrows⟩ :=
    grow_correct I u (I.ny + 1) st (initTr I st u) _ st1 h.inv a b c h.szmm hg
  have gm : ∀ y, st1.m.get y = true ↔ (st.m.get y = true ∨ y = y0) := fun y =>
    hm1 ▸ (Vec.get_set_true (h.szm ▸ hy0Y.1) y).trans or_comm
  refine ⟨⟨hinv1, by rw [hm1]; simp [h.szm], hsz1, fun y hy hmem => ?_⟩, y0, hy0, hy0Y.1, gm⟩
  rcases hrows y ((gm y).1 hy) with e | ⟨c0, hc0, e⟩
  · exact hnd (e ▸ hmem)
  · exact h.rowsDone c0 hc0 (List.mem_cons_of_mem _ (e ▸ hmem))

/-- the set of matched columns grows by exactly one column per processed row -/
theorem outer_correct (I : Inp) : ∀ (free : List Nat) (st st' : St),
    OutInv I free st → (∀ u ∈ free, InX I u) → free.Nodup → outer I free st = some st' →
    OutInv I [] st' ∧
    ∃ cols : List Nat, cols.length = free.length ∧ cols.Nodup ∧
      (∀ y, st'.m.get y = true ↔ (st.m.get y = true ∨ y ∈ cols)) ∧ (∀ y ∈ cols, st.m.get y = false ∧ y < I.ny) := by
  intro free
  induction free with
  | nil =>
    intro st st' h _ _ hres
    cases hres
    exact ⟨h, [], rfl, List.nodup_nil, by simp, by simp⟩
  | cons u rest ih =>
    intro st st' h hX hnd hres
    simp only [outer] at hres
    split at hres
    · cases hres
    · next st1 hg =>
      have hnd' := List.nodup_cons.1 hnd
      obtain ⟨h1, y0, hy0, hy0lt, gm⟩ := phase_outInv h (hX u List.mem_cons_self) hnd'.1 hg
      obtain ⟨hfin, cols, hlen, hcnd, hiff, hcols⟩ :=
        ih st1 st' h1 (fun v hv => hX v (List.mem_cons_of_mem _ hv)) hnd'.2 hres
      refine ⟨hfin, y0 :: cols, by simp [hlen], ?_, ?_, ?_⟩
      · exact List.nodup_cons.2 ⟨fun hmem => by simpa [(gm y0).2 (.inr rfl)] using (hcols y0 hmem).1, hcnd⟩
      · intro y; rw [hiff y, gm y, List.mem_cons, or_assoc]
      · intro y hy
        rcases List.mem_cons.1 hy with rfl | hmem
        · exact ⟨hy0, hy0lt⟩
        · refine ⟨?_, (hcols y hmem).2⟩
          exact Bool.eq_false_iff.2 fun hv => by simpa [(gm y).2 (.inl hv)] using (hcols y hmem).1

#print axioms outer_correct
/-- the rows the outer loop serves, in its order -/
def freeRows (I : Inp) : List Nat := ((List.range I.nx).filter (fun x => !I.skipx.get x)).reverse

/-- labels and (empty) matching before the first phase (hungarian.rs:98-112) -/
def initSt (I : Inp) : St :=
  { lx := Vec.tab I.nx (rowMax I), ly := Vec.const I.ny 0, m := Vec.const I.ny false, mm := Vec.const I.ny 0 }

/-- the score as `run` computes it (hungarian.rs:235-239) -/
def scoreSum (I : Inp) (mm : Vec Nat) : Int :=
  (List.range I.ny).foldl (fun acc y => if I.skipy.get y then acc else acc + I.wt (mm.get y) y) 0

theorem run_eq_outer (I : Inp) : run I =
    match outer I (freeRows I) (initSt I) with
    | none => none
    | some st => some (st.mm, scoreSum I st.mm) := rfl

theorem mem_freeRows {I : Inp} {u : Nat} : u ∈ freeRows I ↔ InX I u := by simp [freeRows, InX]

theorem freeRows_nodup (I : Inp) : (freeRows I).Nodup :=
  List.pairwise_reverse.2 (((List.nodup_range (n := I.nx)).filter _).imp Ne.symm)

theorem rowMax_ge {I : Inp} (x : Nat) {y : Nat} (hy : y < I.ny) : I.wt x y ≤ rowMax I x :=
  List.foldl_range_inv (fun acc y => max acc (I.wt x y)) (fun n acc => ∀ y, y < n → I.wt x y ≤ acc) I.ny 0
    (fun y h => by omega)
    (fun i b _ hb y hy => by
      by_cases e : y = i
      · subst e; exact Int.le_max_right _ _
      · exact Int.le_trans (hb y (by omega)) (Int.le_max_left _ _)) y hy

theorem init_outInv (I : Inp) : OutInv I (freeRows I) (initSt I) := by
  have m0 : ∀ y, (initSt I).m.get y = false := Vec.get_const_default I.ny
  refine ⟨⟨by simp [initSt], by simp [initSt], ?_, ?_, ?_⟩, by simp [initSt], by simp [initSt], ?_⟩
  · intro x y hx hy _
    simp only [initSt, Vec.get_tab, Vec.get_const, hx.1, hy.1, if_true]
    have := rowMax_ge x hy.1; omega
  · intro y hy; simp [m0 y] at hy
  · intro y1 _ hy; simp [m0 y1] at hy
  · intro y hy; simp [m0 y] at hy

end H2
