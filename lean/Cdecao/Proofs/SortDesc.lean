/-! Sorting by a key and descending lists of naturals: `mergeSort` by a total preorder is sorted by
    it, and a descending permutation of a list is its descending sort. Core only. -/

theorem List.pairwise_mergeSort_rel {α : Type} {r : α → α → Prop} [DecidableRel r]
    (trans : ∀ a b c, r a b → r b c → r a c) (total : ∀ a b, r a b ∨ r b a) (l : List α) :
    (l.mergeSort fun a b => decide (r a b)).Pairwise r :=
  (List.pairwise_mergeSort (le := fun a b => decide (r a b))
    (fun a b c h1 h2 => decide_eq_true (trans a b c (of_decide_eq_true h1) (of_decide_eq_true h2)))
    (fun a b => by simpa using total a b) l).imp of_decide_eq_true

theorem List.pairwise_mergeSort_le {α : Type} (f : α → Nat) (l : List α) :
    (l.mergeSort fun a b => decide (f a ≤ f b)).Pairwise fun a b => f a ≤ f b :=
  pairwise_mergeSort_rel (r := fun a b => f a ≤ f b) (fun _ _ _ => Nat.le_trans)
    (fun a b => Nat.le_total (f a) (f b)) l

namespace RMP

/-- sortedness notion used throughout: pairwise `≥` -/
def GE (l : List Nat) : Prop := l.Pairwise (fun a b => b ≤ a)

theorem getD_of_lt {α : Type} {l : List α} {i : Nat} (h : i < l.length) (d : α) : l.getD i d = l[i] := by
  rw [List.getD_eq_getElem?_getD, List.getElem?_eq_getElem h, Option.getD_some]

theorem getD_of_le {α : Type} {l : List α} {i : Nat} (h : l.length ≤ i) (d : α) : l.getD i d = d := by
  rw [List.getD_eq_getElem?_getD, List.getElem?_eq_none h, Option.getD_none]

theorem lt_length_of_getD_pos {l : List Nat} {i : Nat} (h : 0 < l.getD i 0) : i < l.length :=
  Nat.lt_of_not_le fun hle => by rw [getD_of_le hle] at h; exact Nat.lt_irrefl 0 h

/-- rank-wise comparison with default 0: beyond the end of `S` there is nothing to check -/
theorem forall_getD_le_iff {S R : List Nat} :
    (∀ i, i < S.length → S.getD i 0 ≤ R.getD i 0) ↔ ∀ i, S.getD i 0 ≤ R.getD i 0 := by
  refine ⟨fun h i => ?_, fun h i _ => h i⟩
  by_cases hi : i < S.length
  · exact h i hi
  · rw [getD_of_le (Nat.le_of_not_lt hi)]; exact Nat.zero_le _

theorem mergeSort_GE (l : List Nat) : GE (l.mergeSort fun a b => decide (b ≤ a)) :=
  List.pairwise_mergeSort_rel (r := fun a b => b ≤ a) (fun _ _ _ h1 h2 => Nat.le_trans h2 h1)
    (fun a b => Nat.le_total b a) l

theorem GE.le_head {a b : Nat} {l : List Nat} (h : GE (a :: l)) (hb : b ∈ a :: l) : b ≤ a := by
  rcases List.mem_cons.mp hb with rfl | hb
  · exact Nat.le_refl _
  · exact List.rel_of_pairwise_cons h hb

theorem GE.eq_of_perm {l₁ l₂ : List Nat} (h₁ : GE l₁) (h₂ : GE l₂) (h : l₁.Perm l₂) : l₁ = l₂ :=
  List.Perm.eq_of_pairwise (le := fun a b => b ≤ a) (fun _ _ _ _ h1 h2 => Nat.le_antisymm h2 h1) h₁ h₂ h

/-- the descending sort of `l` is THE descending permutation of `l` -/
theorem mergeSort_eq_of {l s : List Nat} (hs : GE s) (h : s.Perm l) :
    (l.mergeSort fun a b => decide (b ≤ a)) = s :=
  (mergeSort_GE l).eq_of_perm hs ((List.mergeSort_perm _ _).trans h.symm)

theorem GE.anti {l : List Nat} (h : GE l) {i j : Nat} (hij : i ≤ j) : l.getD j 0 ≤ l.getD i 0 := by
  by_cases hj : j < l.length
  · rcases Nat.lt_or_eq_of_le hij with hlt | rfl
    · rw [getD_of_lt hj, getD_of_lt (Nat.lt_trans hlt hj)]
      exact List.pairwise_iff_getElem.mp h i j _ hj hlt
    · exact Nat.le_refl _
  · rw [getD_of_le (Nat.le_of_not_lt hj)]; exact Nat.zero_le _

end RMP

/-- reading a list entry by entry (`for i in 0..l.len()`) is mapping over it -/
theorem List.map_getD_range {α β : Type} (l : List α) (d : α) (f : α → β) :
    (List.range l.length).map (fun i => f (l.getD i d)) = l.map f := by
  refine List.ext_getElem (by rw [List.length_map, List.length_map, List.length_range])
    fun i h1 _ => ?_
  rw [List.length_map, List.length_range] at h1
  rw [List.getElem_map, List.getElem_map, List.getElem_range, RMP.getD_of_lt h1]
