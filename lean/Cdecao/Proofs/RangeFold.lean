/-! The `for i in 0..n` loops of the models are folds over `List.range n`; this is the invariant
    rule for them. -/

theorem List.foldl_range_inv {β : Type} (f : β → Nat → β) (P : Nat → β → Prop) (n : Nat) (b : β)
    (h0 : P 0 b) (hstep : ∀ i b, i < n → P i b → P (i + 1) (f b i)) :
    P n ((List.range n).foldl f b) := by
  induction n with
  | zero => simpa using h0
  | succ n ih =>
    rw [List.range_succ, List.foldl_append]
    exact hstep n _ (Nat.lt_succ_self n) (ih fun i b hi => hstep i b (Nat.lt_succ_of_lt hi))

/-- the same for a fold that may fail but never does while the invariant holds: it returns what the
    unchecked fold returns -/
theorem List.foldlM_range_sim {β : Type} {f : β → Nat → β} {g : β → Nat → Option β} (P : Nat → β → Prop)
    {n : Nat} {b : β} (h0 : P 0 b) (hstep : ∀ i b, i < n → P i b → g b i = some (f b i) ∧ P (i + 1) (f b i)) :
    (List.range n).foldlM g b = some ((List.range n).foldl f b) ∧ P n ((List.range n).foldl f b) :=
  List.foldl_range_inv f (fun i acc => (List.range i).foldlM g b = some acc ∧ P i acc) n b ⟨rfl, h0⟩
    fun i acc hi ⟨e, hp⟩ => by
      rw [List.range_succ, List.foldlM_append, e]
      exact ⟨by simp [(hstep i acc hi hp).1], (hstep i acc hi hp).2⟩
