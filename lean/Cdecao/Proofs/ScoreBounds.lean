import Cdecao.Proofs.HungBounds
import Cdecao.Proofs.NodeEng
import Cdecao.Proofs.SpecExec
/-! Size bounds on every score the model computes (the Rust code holds scores in `u32`):
    the node solver's score is at most `(I.m + #instructor entries) * WEIGHT`, and so is every
    score the parallel engine ever stores (incumbent score, parent scores of pending nodes). -/
open Finset
namespace N2
open H2

theorem weight_le (I : Inst) (x cp : Nat) : I.weight x cp ≤ (WEIGHT : Int) := by
  unfold Inst.weight
  split
  · split
    · simp only [Int.ofNat_eq_natCast]; omega
    · exact Int.natCast_nonneg _
  · exact Int.natCast_nonneg _

theorem nodeInp_wt_bounds (I : Inst) (nd : Node)
    (hpen : ∀ p ch, ch ∈ (I.part p).choices → ch.penalty ≤ WEIGHT) (x y : Nat) :
    0 ≤ (nodeInp I nd).wt x y ∧ (nodeInp I nd).wt x y ≤ (WEIGHT : Int) := by
  by_cases h : x < I.n ∧ y < I.m
  · rw [wt_eq I nd x y h.1 h.2]
    exact ⟨weight_nonneg I hpen x y, weight_le I x y⟩
  · rw [wt_eq_zero I nd h]
    exact ⟨Int.le_refl _, Int.natCast_nonneg _⟩

theorem hung_score_le (I : Inst) (nd : Node)
    (hpen : ∀ p ch, ch ∈ (I.part p).choices → ch.penalty ≤ WEIGHT) (mm : Vec Nat) (sc : Int)
    (h : H2.run (nodeInp I nd) = some (mm, sc)) : sc.toNat ≤ I.m * WEIGHT := by
  have hb := H2B.run_score_bounds (nodeInp I nd) (WEIGHT : Int) (nodeInp_wt_bounds I nd hpen) mm sc h
  have hny : (nodeInp I nd).ny = I.m := rfl
  rw [hny] at hb
  have : sc ≤ ((I.m * WEIGHT : Nat) : Int) := by rw [Int.natCast_mul]; exact hb.2
  omega

theorem sum_instr_length (k : Nat) (l : List Course) :
    ∑ c ∈ range l.length, (l.getD c default).instructors.length * k
      = (l.flatMap (fun c => c.instructors)).length * k := by
  induction l with
  | nil => simp
  | cons a l ih =>
    rw [List.length_cons, sum_range_succ', List.flatMap_cons, List.length_append, Nat.add_mul, ← ih,
      Nat.add_comm]
    rfl

theorem bonusOf_le (I : Inst) (nd : Node) : bonusOf I nd ≤ I.allInstructors.length * WEIGHT := by
  unfold bonusOf
  rw [foldl_cond_eq_sum, Inst.allInstructors, ← sum_instr_length]
  apply sum_le_sum
  intro c _
  split
  · exact Nat.zero_le _
  · rw [Nat.mul_comm]
    exact Nat.mul_le_mul_right _ List.countP_le_length

/-- the closed-form bound on every score the node solver reports -/
def scoreBound (I : Inst) : Nat := (I.m + I.allInstructors.length) * WEIGHT

theorem node_score_le (I : Inst) (R : RoomFns) (nd : Node)
    (hpen : ∀ p ch, ch ∈ (I.part p).choices → ch.penalty ≤ WEIGHT) :
    (∀ kids s, runNodeS I R nd = .ok (.infeasible kids s) → s ≤ (I.m + I.allInstructors.length) * WEIGHT) ∧
    (∀ al s, runNodeS I R nd = .ok (.feasible al s) → s ≤ (I.m + I.allInstructors.length) * WEIGHT) := by
  have key : ∀ mm hsc, H2.run (nodeInp I nd) = some (mm, hsc) →
      hsc.toNat + bonusOf I nd ≤ (I.m + I.allInstructors.length) * WEIGHT := by
    intro mm hsc hrun
    have h1 := hung_score_le I nd hpen mm hsc hrun
    have h2 := bonusOf_le I nd
    rw [Nat.add_mul]; omega
  constructor
  · intro kids s h
    obtain ⟨mm, hsc, -, hrun, rfl, -⟩ := runNodeS_infeasible h
    exact key mm hsc hrun
  · intro al s h
    obtain ⟨mm, hsc, -, hrun, -, -, -, rfl⟩ := runNodeS_feasible h
    exact key mm hsc hrun

section Engine
open Eng3
variable {ν σ : Type} [Solver ν σ]

/-- the score part of a configuration: incumbent score and parent scores of pending nodes -/
def ScoreInv (top B : Nat) (c : Cfg ν σ) : Prop :=
  c.bestScore ≤ B ∧ ∀ e ∈ c.pending, e.2 ≤ max top B

theorem scoreInv_move {top B : Nat} {c c' : Cfg ν σ} {a : Act ν}
    (hB : ∀ (n : ν) s, Solver.res n = Eng3.Res.infeasible (σ := σ) s → s ≤ B)
    (hF : ∀ (n : ν) sol s, Solver.res n = Eng3.Res.feasible (σ := σ) sol s → s ≤ B)
    (h : ScoreInv top B c) (hm : Move c c' a) : ScoreInv top B c' := by
  refine ⟨?_, fun e he => ?_⟩
  · rcases hm.incumbent with ⟨_, hs⟩ | ⟨n, sol, _, hr, _⟩
    · exact hs ▸ h.1
    · exact hF n sol _ hr
  · rcases hm.mem_pending he with he | ⟨n, sc, _, hr, _, rfl⟩
    · exact h.2 e he
    · exact Nat.le_trans (hB n _ hr) (Nat.le_max_right _ _)

theorem reach_scoreInv {root : ν} {top T B : Nat} {c : Cfg ν σ}
    (hB : ∀ (n : ν) s, Solver.res n = Eng3.Res.infeasible (σ := σ) s → s ≤ B)
    (hF : ∀ (n : ν) sol s, Solver.res n = Eng3.Res.feasible (σ := σ) sol s → s ≤ B)
    (hr : Reach root top T c) : ScoreInv top B c :=
  hr.of_move ⟨Nat.zero_le _, fun e he => by cases List.mem_singleton.1 he; exact Nat.le_max_left _ _⟩
    (scoreInv_move hB hF)

end Engine

theorem engine_scores_le (I : Inst) (R : RoomFns)
    (hpen : ∀ p ch, ch ∈ (I.part p).choices → ch.penalty ≤ WEIGHT) (top T : Nat) :
    letI := solverOf I R
    ∀ c : Eng3.Cfg Node (List (Option Nat)), Eng3.Reach rootNode top T c →
      c.bestScore ≤ (I.m + I.allInstructors.length) * WEIGHT ∧
      ∀ e ∈ c.pending, e.2 ≤ max top ((I.m + I.allInstructors.length) * WEIGHT) := by
  intro c hr
  exact @reach_scoreInv _ _ (solverOf I R) _ _ _ _ _
    (fun n s hres => (node_score_le I R n hpen).1 _ s (solverOf_res_eq_infeasible_iff.1 hres))
    (fun n sol s hres => (node_score_le I R n hpen).2 sol s (solverOf_res_eq_feasible_iff.1 hres)) hr

theorem allInstructors_length_le_of_valid (I : Inst) (h : validb I = true) :
    I.allInstructors.length ≤ I.P := by
  simp only [validb, Bool.and_eq_true] at h
  -- the instructor entries are pairwise distinct participants
  have hsub : I.allInstructors.toFinset ⊆ range I.P := by
    intro i hi
    rw [List.mem_toFinset, Inst.allInstructors, List.mem_flatMap] at hi
    obtain ⟨c, hc, hic⟩ := hi
    exact mem_range.2 (instructor_lt h.1.1.1.1.1 hc hic)
  have := card_le_card hsub
  rwa [List.toFinset_card_of_nodup ((nodupb_iff _).1 h.1.1.1.2), card_range] at this

theorem scoreBound_le_of_valid (I : Inst) (h : validb I = true) :
    (I.m + I.allInstructors.length) * WEIGHT ≤ (I.m + I.P) * 50000 := by
  have := allInstructors_length_le_of_valid I h
  exact Nat.mul_le_mul (by omega) (Nat.le_refl _)

#print axioms node_score_le
#print axioms engine_scores_le
#print axioms allInstructors_length_le_of_valid
end N2
