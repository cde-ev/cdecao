import Mathlib.Data.Nat.Choose.Basic
import Cdecao.Model.Util
import Cdecao.Proofs.RangeFold
/-! C20: `binom` is the binomial coefficient, and the colex successor of util.rs raises the
    combinatorial rank by one, keeps validity and fails exactly on the last selection; hence the
    enumeration yields the selections of ranks `0, 1, …, choose n k - 1`. -/
namespace S

/-- rank in the combinatorial number system, for the suffix starting at position `j` -/
def rank : Nat → List Nat → Nat
  | _, [] => 0
  | j, a :: rest => Nat.choose a (j + 1) + rank (j + 1) rest

def Incr : List Nat → Prop
  | [] => True
  | [_] => True
  | a :: b :: rest => a < b ∧ Incr (b :: rest)

/-- validity of a suffix starting at position `j`: increasing, below `n`, head at least `j` -/
structure Valid (n j : Nat) (idx : List Nat) : Prop where
  inc : Incr idx
  lt : ∀ a ∈ idx, a < n
  hd : ∀ a rest, idx = a :: rest → j ≤ a

/-- `next` fails exactly on the last selection `[n-k, …, n-1]` (stated for suffixes: every
    element sits directly below its successor and the last one is `n-1`) -/
def IsTop (n : Nat) : List Nat → Prop
  | [] => False
  | [a] => a + 1 = n
  | a :: b :: rest => b = a + 1 ∧ IsTop n (b :: rest)

theorem valid_single {n j a : Nat} : Valid n j [a] ↔ j ≤ a ∧ a < n :=
  ⟨fun h => ⟨h.hd a [] rfl, h.lt a (List.mem_singleton.2 rfl)⟩,
   fun ⟨hj, hn⟩ => ⟨trivial, fun _ hx => List.mem_singleton.1 hx ▸ hn, fun _ _ e => by cases e; exact hj⟩⟩

theorem valid_cons_cons {n j a b : Nat} {rest : List Nat} :
    Valid n j (a :: b :: rest) ↔ j ≤ a ∧ a < b ∧ Valid n (j + 1) (b :: rest) :=
  ⟨fun h => ⟨h.hd a _ rfl, h.inc.1, h.inc.2, fun x hx => h.lt x (List.mem_cons_of_mem _ hx),
      fun _ _ e => by cases e; exact Nat.succ_le_of_lt (Nat.lt_of_le_of_lt (h.hd a _ rfl) h.inc.1)⟩,
   fun ⟨hj, hab, h⟩ => ⟨⟨hab, h.inc⟩,
      List.forall_mem_cons.2 ⟨Nat.lt_trans hab (h.lt b List.mem_cons_self), h.lt⟩,
      fun _ _ e => by cases e; exact hj⟩⟩

theorem Valid.le_head {n j a : Nat} {rest : List Nat} (h : Valid n j (a :: rest)) : j ≤ a :=
  h.hd a rest rfl

/-! `fun_induction succ n j idx` gives the five cases of the definition of `succ`, in its order,
    each with `succ n j idx` replaced by its value. -/

/-- Pascal's rule as the one inequality the rank bound needs (`b = a + 1` is the equality case,
    `Nat.choose_succ_succ'`) -/
theorem choose_step {a b : Nat} (j : Nat) (h : a < b) :
    Nat.choose a j + Nat.choose a (j + 1) ≤ Nat.choose b (j + 1) :=
  Nat.choose_succ_succ' a j ▸ Nat.choose_le_choose (j + 1) h

/-- `rank` unfolded in the shape of the invariant `rank j idx + choose head j`: the two binomials
    of the head are ready for Pascal's rule, the rest is the invariant's `rank` part one level up -/
theorem rank_cons (j a : Nat) (l : List Nat) :
    rank j (a :: l) + Nat.choose a j = Nat.choose a j + Nat.choose a (j + 1) + rank (j + 1) l := by
  rw [rank, Nat.add_comm, Nat.add_assoc]

theorem rank_succ_head (j a : Nat) (l : List Nat) :
    rank j ((a + 1) :: l) = Nat.choose a j + rank j (a :: l) := by
  rw [rank, rank, Nat.choose_succ_succ', Nat.add_assoc]

/-- the index of the binomial coefficient one level up -/
theorem add_length_cons (j a : Nat) (l : List Nat) : j + (a :: l).length = j + 1 + l.length :=
  (Nat.succ_add_eq_add_succ j l.length).symm

/-- one step raises the rank by `choose head j`; at the top level (`j = 0`) that is exactly 1 -/
theorem succ_rank (n : Nat) : ∀ (idx : List Nat) (j a : Nat) (rest idx' : List Nat), idx = a :: rest →
    Incr idx → succ n j idx = some idx' → rank j idx' = Nat.choose a j + rank j idx := by
  intro idx j
  fun_induction succ n j idx with
  | case1 | case2 => intro _ _ _ _ _ hs; cases hs
  | case3 j a h => rintro _ _ _ ⟨⟩ _ ⟨⟩; exact rank_succ_head j a []
  | case4 j a b rest h => rintro _ _ _ ⟨⟩ _ ⟨⟩; exact rank_succ_head j a (b :: rest)
  | case5 j a b rest h ih =>
    -- the head is reset to `j` (rank part `choose j (j + 1) = 0`) and the carry goes one level up
    rintro _ _ idx' ⟨⟩ hinc hs
    obtain ⟨r, hr, rfl⟩ := Option.map_eq_some_iff.1 hs
    obtain rfl : b = a + 1 := Nat.le_antisymm (Nat.le_of_not_lt h) hinc.1
    rw [rank, Nat.choose_succ_self, Nat.zero_add, ih _ _ _ rfl hinc.2 hr, Nat.choose_succ_succ',
      Nat.add_assoc]
    rfl

theorem succ_valid (n : Nat) : ∀ (idx : List Nat) (j : Nat) (idx' : List Nat),
    Valid n j idx → succ n j idx = some idx' → Valid n j idx' ∧ idx'.length = idx.length := by
  intro idx j
  fun_induction succ n j idx with
  | case1 | case2 => intro _ _ hs; cases hs
  | case3 j a h =>
    rintro _ hv ⟨⟩
    exact ⟨valid_single.2 ⟨Nat.le_succ_of_le hv.le_head, Nat.lt_of_not_ge h⟩, rfl⟩
  | case4 j a b rest h =>
    rintro _ hv ⟨⟩
    exact ⟨valid_cons_cons.2 ⟨Nat.le_succ_of_le hv.le_head, h, (valid_cons_cons.1 hv).2.2⟩, rfl⟩
  | case5 j a b rest h ih =>
    intro idx' hv hs
    obtain ⟨r, hr, rfl⟩ := Option.map_eq_some_iff.1 hs
    obtain ⟨hvr, hlen⟩ := ih r (valid_cons_cons.1 hv).2.2 hr
    obtain _ | ⟨c, r⟩ := r
    · cases hlen
    · exact ⟨valid_cons_cons.2 ⟨Nat.le_refl j, hvr.le_head, hvr⟩, congrArg (· + 1) hlen⟩

theorem succ_none (n : Nat) : ∀ (idx : List Nat) (j : Nat), idx ≠ [] → Valid n j idx →
    (succ n j idx = none ↔ IsTop n idx) := by
  intro idx j
  fun_induction succ n j idx with
  | case1 => intro h; exact absurd rfl h
  | case2 j a h =>                -- fails, and `a + 1 = n`
    intro _ hv
    exact iff_of_true rfl (Nat.le_antisymm (valid_single.1 hv).2 h)
  | case3 j a h =>                -- succeeds, and `a + 1 ≠ n`
    intro _ _
    exact iff_of_false nofun fun ht => h (Nat.le_of_eq ht.symm)
  | case4 j a b rest h =>         -- succeeds, and `b ≠ a + 1`
    intro _ _
    exact iff_of_false nofun fun ht => Nat.ne_of_gt h ht.1
  | case5 j a b rest h ih =>      -- `b = a + 1`, so both sides are decided by the tail
    intro _ hv
    obtain ⟨-, hab, hvt⟩ := valid_cons_cons.1 hv
    rw [Option.map_eq_none_iff, ih (List.cons_ne_nil _ _) hvt]
    exact (and_iff_right (Nat.le_antisymm (Nat.le_of_not_lt h) hab)).symm

/-! `rank_bound` and its equality case `rank_top` are the same three steps: `rank_cons`, Pascal
    (`choose_step` resp. `Nat.choose_succ_succ'`), induction hypothesis one level up
    (`add_length_cons`). -/

/-- every valid selection has rank below `choose n k` (stated for suffixes) -/
theorem rank_bound (n : Nat) : ∀ (idx : List Nat) (j a : Nat) (rest : List Nat), idx = a :: rest →
    Valid n j idx → rank j idx + Nat.choose a j ≤ Nat.choose n (j + idx.length) := by
  rintro _ j a rest rfl
  induction rest generalizing j a with
  | nil =>
    intro hv
    rw [rank_cons]
    exact choose_step j (valid_single.1 hv).2
  | cons b rest ih =>
    intro hv
    obtain ⟨-, hab, hvt⟩ := valid_cons_cons.1 hv
    rw [rank_cons, add_length_cons, Nat.add_comm]
    exact Nat.le_trans (Nat.add_le_add_left (choose_step j hab) _) (ih (j + 1) b hvt)

/-- rank of a top suffix: together with `choose head j` it fills up the binomial coefficient -/
theorem rank_top (n : Nat) : ∀ (rest : List Nat) (j a : Nat), IsTop n (a :: rest) →
    rank j (a :: rest) + Nat.choose a j = Nat.choose n (j + (a :: rest).length) := by
  intro rest
  induction rest with
  | nil =>
    rintro j a ⟨⟩
    rw [rank_cons, ← Nat.choose_succ_succ']
    rfl
  | cons b rest ih =>
    rintro j a ⟨rfl, ht⟩
    rw [rank_cons, ← Nat.choose_succ_succ', add_length_cons, Nat.add_comm]
    exact ih (j + 1) (a + 1) ht

theorem binom_eq (n k : Nat) : binom n k = Nat.choose n k := by
  unfold binom
  by_cases h : k > n
  · rw [if_pos h, Nat.choose_eq_zero_of_lt h]
  · rw [if_neg h]
    -- after `i` rounds the accumulator is `choose n i`; one round: `Nat.choose_succ_right_eq`
    refine List.foldl_range_inv _ (fun i res => res = Nat.choose n i) k 1
      (Nat.choose_zero_right n).symm fun i b _ hb => ?_
    rw [hb, ← Nat.choose_succ_right_eq]
    exact Nat.mul_div_cancel _ (Nat.succ_pos i)

theorem Incr.tail {a : Nat} {l : List Nat} (h : Incr (a :: l)) : Incr l := by
  cases l with
  | nil => trivial
  | cons b r => exact h.2

theorem rank_range' : ∀ (k j : Nat), rank j (List.range' j k) = 0 := by
  intro k
  induction k with
  | zero => intro j; rfl
  | succ k ih =>
    intro j
    rw [List.range'_succ]
    simp only [rank, ih (j + 1)]
    exact Nat.choose_eq_zero_of_lt (Nat.lt_succ_self j)

/-- the first selection `[j, j + 1, …]` of a suffix -/
theorem valid_range' {n m j : Nat} (h : j + m ≤ n) : Valid n j (List.range' j m) := by
  induction m generalizing j with
  | zero => exact ⟨trivial, nofun, nofun⟩
  | succ m ih =>
    cases m with
    | zero => exact valid_single.2 ⟨Nat.le_refl j, h⟩
    | succ m =>
      have := ih (j := j + 1) (by rw [Nat.add_right_comm, Nat.add_assoc]; exact h)
      rw [List.range'_succ] at this
      rw [List.range'_succ, List.range'_succ]
      exact valid_cons_cons.2 ⟨Nat.le_refl j, Nat.lt_succ_self j, this⟩

theorem next_rank (n : Nat) (a : Nat) (rest idx' : List Nat) (hinc : Incr (a :: rest))
    (h : next n (a :: rest) = some idx') : rank 0 idx' = rank 0 (a :: rest) + 1 := by
  rw [succ_rank n _ 0 a rest idx' rfl hinc h, Nat.choose_zero_right, Nat.add_comm]

/-- the last selection has rank `choose n k - 1` -/
theorem rank_last (n : Nat) (a : Nat) (rest : List Nat) (ht : IsTop n (a :: rest)) :
    rank 0 (a :: rest) + 1 = Nat.choose n (a :: rest).length := by
  have := rank_top n rest 0 a ht
  rwa [Nat.choose_zero_right, Nat.zero_add] at this

#print axioms succ_valid
#print axioms succ_none
#print axioms rank_last

theorem next_spec {n : Nat} {l l' : List Nat} (hv : Valid n 0 l) (h : next n l = some l') :
    l' ≠ [] ∧ Valid n 0 l' ∧ l'.length = l.length ∧ rank 0 l' = rank 0 l + 1 := by
  obtain _ | ⟨a, rest⟩ := l
  · cases h
  · obtain ⟨hv', hlen⟩ := succ_valid n _ 0 l' hv h
    exact ⟨(by rintro rfl; cases hlen), hv', hlen, next_rank n a rest l' hv.inc h⟩

theorem Valid.rank_lt {n : Nat} {l : List Nat} (hv : Valid n 0 l) :
    rank 0 l < Nat.choose n l.length := by
  cases l with
  | nil => exact Nat.choose_pos (Nat.zero_le n)
  | cons a rest =>
    have := rank_bound n _ 0 a rest rfl hv
    rwa [Nat.choose_zero_right, Nat.zero_add] at this

theorem enumFrom_spec {n f : Nat} {idx : List Nat} (hne : idx ≠ []) (hv : Valid n 0 idx)
    (hsum : rank 0 idx + f = Nat.choose n idx.length) :
    (enumFrom n f idx).length = f ∧
    ∀ i, i < f → ∃ l, (enumFrom n f idx)[i]? = some l ∧ Valid n 0 l ∧ l.length = idx.length ∧
      rank 0 l = rank 0 idx + i := by
  induction f generalizing idx with
  | zero => exact ⟨rfl, fun i hi => absurd hi (Nat.not_lt_zero i)⟩
  | succ f ih =>
    rw [enumFrom]
    cases hnx : next n idx with
    | none =>
      -- the last selection: its rank is `choose n k - 1`, so no fuel is left over
      obtain ⟨a, rest, rfl⟩ := List.exists_cons_of_ne_nil hne
      have hlast := rank_last n a rest ((succ_none n _ 0 hne hv).1 hnx)
      obtain rfl : f = 0 := Nat.succ.inj (Nat.add_left_cancel (hsum.trans hlast.symm))
      refine ⟨rfl, fun i hi => ?_⟩
      obtain rfl : i = 0 := Nat.lt_one_iff.1 hi
      exact ⟨_, rfl, hv, rfl, rfl⟩
    | some idx' =>
      obtain ⟨hne', hv', hlen', hr'⟩ := next_spec hv hnx
      obtain ⟨h1, h2⟩ := ih hne' hv' (by rw [hlen', hr', Nat.add_assoc, Nat.add_comm 1]; exact hsum)
      refine ⟨congrArg (· + 1) h1, fun i hi => ?_⟩
      cases i with
      | zero => exact ⟨idx, rfl, hv, rfl, rfl⟩
      | succ i =>
        obtain ⟨l, hl, hvl, hll, hrl⟩ := h2 i (Nat.lt_of_succ_lt_succ hi)
        exact ⟨l, hl, hvl, hll.trans hlen', by rw [hrl, hr', Nat.add_assoc, Nat.add_comm 1]⟩

theorem selections_spec (n k : Nat) (hk : 1 ≤ k) (hkn : k ≤ n) :
    (selections n k).length = Nat.choose n k ∧
    ∀ i, i < Nat.choose n k → ∃ l, (selections n k)[i]? = some l ∧ Valid n 0 l ∧ l.length = k ∧ rank 0 l = i := by
  have hsel : selections n k = enumFrom n (Nat.choose n k) (List.range' 0 k) := by
    rw [selections, binom_eq, if_neg (not_or.2 ⟨Nat.ne_of_gt hk, Nat.not_lt.2 hkn⟩), List.range_eq_range']
  have hne : List.range' 0 k ≠ [] := by
    rw [Ne, List.range'_eq_nil_iff]; exact Nat.ne_of_gt hk
  have := enumFrom_spec (f := Nat.choose n k) hne (valid_range' (n := n) (by rw [Nat.zero_add]; exact hkn))
    (by rw [rank_range', List.length_range', Nat.zero_add])
  simpa only [← hsel, rank_range', List.length_range', Nat.zero_add] using this

theorem stops_after_last (n k : Nat) (l : List Nat) (hne : l ≠ []) (hv : Valid n 0 l) (hlen : l.length = k)
    (hr : rank 0 l + 1 = Nat.choose n k) : next n l = none := by
  cases hnx : next n l with
  | none => rfl
  | some l' =>
    -- the successor would be a valid selection of rank `choose n k`
    obtain ⟨-, hv', hlen', hr'⟩ := next_spec hv hnx
    have := hv'.rank_lt
    rw [hlen', hlen, hr'] at this
    omega
theorem selections_empty (n k : Nat) (h : k = 0 ∨ k > n) : selections n k = [] := by simp [selections, h]

/-- the size hint before the `i`-th call (`i ≥ 1`): remaining = choose n k - rank - 1 -/
theorem size_hint_exact (n k i : Nat) (l : List Nat) (hr : rank 0 l = i) (hi : i < Nat.choose n k) :
    Nat.choose n k - rank 0 l - 1 = Nat.choose n k - (i + 1) := by rw [hr, Nat.sub_sub]

theorem rankB_eq : ∀ (l : List Nat) (j : Nat), rankB j l = rank j l := by
  intro l
  induction l with
  | nil => intro j; rfl
  | cons a rest ih => intro j; simp [rankB, rank, binom_eq, ih]

#print axioms selections_spec
#print axioms stops_after_last
#eval next 5 [0,1,2]
#eval next 5 [1,3,4]
#eval next 5 [2,3,4]
#eval (List.range 10).map (fun i => (Nat.iterate (fun o => o.bind (next 5)) i (some [0,1,2])).map (rank 0))
end S
