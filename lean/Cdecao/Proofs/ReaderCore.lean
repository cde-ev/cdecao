import Cdecao.Model.Cdedb
import Cdecao.Reader.Spec
/-! The loops of the CdE export reader `CD.read` are `List.foldlM` of one step each, with one
induction principle; a successful run is characterised stage by stage. Core only. -/
namespace CD
open JS

theorem asU64_eq_some {v : J} {id : Nat} (h : v.asU64 = some id) :
    v = .num (.pos id) ∧ id ≤ J.U64_MAX := by
  unfold J.asU64 at h
  split at h
  · rename_i n
    by_cases hn : n ≤ J.U64_MAX
    · simp only [hn, if_true, Option.some.injEq] at h; subst h; exact ⟨rfl, hn⟩
    · simp [hn] at h
  · cases h

theorem asU64_pos {id : Nat} (h : id ≤ J.U64_MAX) : (J.num (.pos id)).asU64 = some id := by
  simp [J.asU64, h]

theorem asBool_eq_some {v : J} {b : Bool} (h : v.asBool = some b) : v = .bool b := by
  cases v <;> simp [J.asBool] at h
  subst h; rfl

theorem bind_eq_ok {ε α β : Type} {x : Except ε α} {f : α → Except ε β} {b : β} :
    x >>= f = .ok b ↔ ∃ a, x = .ok a ∧ f a = .ok b := by
  cases x with
  | error e => exact ⟨fun h => (by cases h), by rintro ⟨_, h, _⟩; cases h⟩
  | ok a => exact ⟨fun h => ⟨a, rfl, h⟩, by rintro ⟨_, h, h'⟩; cases h; exact h'⟩

/-- A relation between the processed prefix and the state that every successful step extends
    holds between the whole list and the final state. -/
theorem foldlM_ok {ε σ α : Type} {f : σ → α → Except ε σ} {R : List α → σ → Prop} {l : List α}
    (hstep : ∀ done a s s1, R done s → f s a = .ok s1 → R (done ++ [a]) s1) :
    ∀ {done : List α} {s s' : σ}, R done s → l.foldlM f s = .ok s' → R (done ++ l) s' := by
  induction l with
  | nil => intro done s s' h0 h; cases h; simpa using h0
  | cons a l ih =>
    intro done s s' h0 h
    rw [List.foldlM_cons, bind_eq_ok] at h
    obtain ⟨s1, h1, h2⟩ := h
    simpa using ih (hstep done a s s1 h0 h1) h2

/-- what one kept-or-ignored participant does to the loop state (the body of `readRegs.go` after
    both parsers succeeded on a participant) -/
def regApply (trackData : List (String × J)) (o : Opts) (s : RState) (rid : Nat) (name : String)
    (pc : PCData) : RState :=
  match (if o.ignoreAssigned then pc.assigned else none) with
  | some ci =>
    let s' : RState :=
      if pc.instructed == some ci then
        { s with courses := updCourse s.courses ci (fun c => { c with invInstr := c.invInstr + 1 }),
                 extInstr := s.extInstr + 1 }
      else
        { s with courses := updCourse s.courses ci (fun c => { c with invAtt := c.invAtt + 1 }),
                 extPen := s.extPen ++ [assignedPenalty ci pc.choices trackData] }
    { s' with courses := updCourse s'.courses ci (fun c => { c with hidden := c.hidden ++ [name] }),
              numIgnored := s'.numIgnored + 1 }
  | none =>
    if pc.choices.isEmpty && pc.instructed.isNone then s else
    let cs := match pc.instructed with
      | some ci => updCourse s.courses ci (fun c => { c with instructors := c.instructors ++ [s.i] })
      | none => s.courses
    { s with i := s.i + 1, courses := cs,
             parts := s.parts ++ [{ dbid := rid, name := name, choices := pc.choices }] }

/-- one iteration of `readRegs.go` -/
def regStep (partId trackId : Nat) (trackData : List (String × J)) (co : CoursesOut) (o : Opts)
    (s : RState) (kv : String × J) : M RState :=
  match parseNat kv.1 with
  | none => .error "registration id parse error"
  | some rid =>
    match participantBase kv.2 partId with
    | .error e => .error e
    | .ok (isP, name) =>
      if !isP then .ok s else
      (participantCourseData kv.2 trackId co).map (regApply trackData o s rid name)

theorem readRegs_go_cons (partId trackId : Nat) (td : List (String × J)) (co : CoursesOut) (o : Opts)
    (s : RState) (kv : String × J) (rest : List (String × J)) :
    readRegs.go partId trackId td co o s (kv :: rest) =
      match regStep partId trackId td co o s kv with
      | .error e => .error e
      | .ok s1 => readRegs.go partId trackId td co o s1 rest := by
  obtain ⟨k, v⟩ := kv
  rw [readRegs.go]
  unfold regStep
  cases parseNat k with
  | none => rfl
  | some rid =>
    dsimp only
    cases participantBase v partId with
    | error e => rfl
    | ok r =>
      obtain ⟨isP, name⟩ := r
      cases isP with
      | false => rfl
      | true =>
        simp only [Bool.not_true, Bool.false_eq_true, if_false]
        cases participantCourseData v trackId co with
        | error e => rfl
        | ok pc =>
          simp only [Except.map, regApply]
          generalize (if o.ignoreAssigned = true then pc.assigned else none) = x
          cases x with
          | some ci => rfl
          | none =>
            dsimp only
            cases (pc.choices.isEmpty && pc.instructed.isNone) <;> rfl

/-- a registration that the loop does not look at further (not a participant of the part) -/
def regDflt (rid : Nat) : RD.Reg :=
  { id := rid, isParticipant := false, assigned := none, instructed := none, choices := [] }

/-- the typed view of a registration entry `(key, value)` of the export -/
def toReg (partId trackId : Nat) (co : CoursesOut) (kv : String × J) : RD.Reg :=
  let rid := (parseNat kv.1).getD 0
  match participantBase kv.2 partId with
  | .ok (true, _) =>
    match participantCourseData kv.2 trackId co with
    | .ok pc => { id := rid, isParticipant := true, assigned := pc.assigned,
                  instructed := pc.instructed, choices := pc.choices }
    | .error _ => regDflt rid
  | _ => regDflt rid

theorem readRegs_go_eq (partId trackId : Nat) (td : List (String × J)) (co : CoursesOut) (o : Opts) :
    ∀ (l : List (String × J)) (s : RState),
      readRegs.go partId trackId td co o s l = l.foldlM (regStep partId trackId td co o) s
  | [], _ => rfl
  | kv :: l, s => by
    rw [readRegs_go_cons, List.foldlM_cons]
    cases regStep partId trackId td co o s kv with
    | error e => rfl
    | ok s1 => exact readRegs_go_eq partId trackId td co o l s1

/-- the induction principle of the registration loop: `R done s` relates the entries processed so
    far to the loop state; the motive is read off the goal -/
@[elab_as_elim]
theorem readRegs_ind {partId trackId : Nat} {td : List (String × J)} {co : CoursesOut} {o : Opts}
    {rdata : List (String × J)} {s : RState} {R : List (String × J) → RState → Prop}
    (h : readRegs rdata partId trackId td co o = .ok s) (h0 : R [] { courses := co.courses })
    (hstep : ∀ done kv s s1, R done s → regStep partId trackId td co o s kv = .ok s1 →
      R (done ++ [kv]) s1) : R rdata s := by
  unfold readRegs at h
  rw [readRegs_go_eq] at h
  simpa using foldlM_ok hstep h0 h

theorem toReg_ok {partId trackId : Nat} {co : CoursesOut} {kv : String × J} {name : String} {pc : PCData}
    (h1 : participantBase kv.2 partId = .ok (true, name))
    (h2 : participantCourseData kv.2 trackId co = .ok pc) :
    toReg partId trackId co kv =
      { id := (parseNat kv.1).getD 0, isParticipant := true, assigned := pc.assigned,
        instructed := pc.instructed, choices := pc.choices } := by
  unfold toReg
  rw [h1]
  simp only [h2]

theorem toReg_notP {partId : Nat} (trackId : Nat) (co : CoursesOut) {kv : String × J} {name : String}
    (h1 : participantBase kv.2 partId = .ok (false, name)) :
    toReg partId trackId co kv = regDflt ((parseNat kv.1).getD 0) := by
  unfold toReg
  rw [h1]

theorem regStep_ok {partId trackId : Nat} {td : List (String × J)} {co : CoursesOut} {o : Opts}
    {s s1 : RState} {kv : String × J} (h : regStep partId trackId td co o s kv = .ok s1) :
    ∃ rid isP name, parseNat kv.1 = some rid ∧ participantBase kv.2 partId = .ok (isP, name) ∧
      ((isP = false ∧ toReg partId trackId co kv = regDflt rid ∧ s1 = s) ∨
       (isP = true ∧ ∃ pc, participantCourseData kv.2 trackId co = .ok pc ∧
          toReg partId trackId co kv = { id := rid, isParticipant := true, assigned := pc.assigned,
                                         instructed := pc.instructed, choices := pc.choices } ∧
          s1 = regApply td o s rid name pc)) := by
  unfold regStep at h
  split at h
  · cases h
  · rename_i rid hk
    split at h
    · cases h
    · rename_i isP name hb
      refine ⟨rid, isP, name, hk, hb, ?_⟩
      cases isP with
      | false =>
        simp only [Bool.not_false, if_true, Except.ok.injEq] at h
        exact .inl ⟨rfl, by rw [toReg_notP trackId co hb, hk]; rfl, h.symm⟩
      | true =>
        simp only [Bool.not_true, Bool.false_eq_true, if_false] at h
        cases hp : participantCourseData kv.2 trackId co with
        | error e => rw [hp] at h; cases h
        | ok pc =>
          rw [hp] at h
          cases h
          exact .inr ⟨rfl, pc, rfl, by rw [toReg_ok hb hp, hk]; rfl, rfl⟩

def keptStatus (o : Opts) (s : CStatus) : Bool :=
  s == .takesPlace || (s == .cancelled && !o.ignoreCancelled)

def mkCourse (cid : Nat) (name : String) (mn mx : Nat) (f off : FVal) : Course :=
  { dbid := cid, name := name, numMin := mn, numMax := mx, instructors := [],
    factor := f, offset := off, fixed := false, hidden := [] }

/-- one iteration of `readCourses.go` on the accumulator triple -/
def courseStep (trackId : Nat) (o : Opts) (st : List (String × Course) × List Nat × Nat)
    (kv : String × J) : M (List (String × Course) × List Nat × Nat) :=
  match parseNat kv.1 with
  | none => .error "course id parse error"
  | some cid =>
    match parseCourseBase kv.2 trackId with
    | .error e => .error e
    | .ok (name, s, mn, mx, key) =>
      if keptStatus o s then
        match roomFields kv.2 o with
        | .error e => .error e
        | .ok (f, off) => .ok (st.1 ++ [(key, mkCourse cid name mn mx f off)], st.2.1, st.2.2)
      else .ok (st.1, st.2.1 ++ [cid], st.2.2 + (if s == .cancelled && o.ignoreCancelled then 1 else 0))

theorem readCourses_go_cons (trackId : Nat) (o : Opts) (acc : List (String × Course)) (sk : List Nat)
    (n : Nat) (kv : String × J) (rest : List (String × J)) :
    readCourses.go trackId o acc sk n (kv :: rest) =
      match courseStep trackId o (acc, sk, n) kv with
      | .error e => .error e
      | .ok st => readCourses.go trackId o st.1 st.2.1 st.2.2 rest := by
  obtain ⟨k, v⟩ := kv
  rw [readCourses.go]
  unfold courseStep keptStatus
  cases parseNat k with
  | none => rfl
  | some cid =>
    dsimp only
    cases parseCourseBase v trackId with
    | error e => rfl
    | ok r =>
      obtain ⟨name, s, mn, mx, key⟩ := r
      dsimp only
      cases s with
      | notOffered => rfl
      | cancelled =>
        cases o.ignoreCancelled with
        | true => rfl
        | false =>
          cases roomFields v o with
          | error e => rfl
          | ok r => rfl
      | takesPlace =>
        cases roomFields v o with
        | error e => rfl
        | ok r => rfl

theorem readCourses_go_eq (trackId : Nat) (o : Opts) :
    ∀ (l : List (String × J)) (acc : List (String × Course)) (sk : List Nat) (n : Nat),
      readCourses.go trackId o acc sk n l = l.foldlM (courseStep trackId o) (acc, sk, n)
  | [], _, _, _ => rfl
  | kv :: l, acc, sk, n => by
    rw [readCourses_go_cons, List.foldlM_cons]
    cases courseStep trackId o (acc, sk, n) kv with
    | error e => rfl
    | ok st => exact readCourses_go_eq trackId o l st.1 st.2.1 st.2.2

/-- what `participantCourseData` reads: is there a `tracks` object, in it an object for the selected
    track, and in that the members `course_id`, `course_instructor`, `choices` -/
def trackView (reg : J) (trackId : Nat) : Option (Option (Option J × Option J × Option J)) :=
  ((reg.get "tracks").bind J.asObject).map fun tracks =>
    ((J.lookup (toString trackId) tracks).bind J.asObject).map fun rt =>
      (J.lookup "course_id" rt, J.lookup "course_instructor" rt, J.lookup "choices" rt)

/-- the `resolve` closure of `participantCourseData` -/
def resolveId (co : CoursesOut) (v : J) (what : String) : M (Option Nat) :=
  match v.asU64 with
  | some id =>
    match courseIndex co id with
    | none => .error (what ++ " does not exist.")
    | some r => .ok r
  | none => .ok none

theorem resolveId_inv {co : CoursesOut} {v : J} {what : String} {r : Option Nat}
    (h : resolveId co v what = .ok r) :
    (v.asU64 = none ∧ r = none) ∨ ∃ id, v.asU64 = some id ∧ courseIndex co id = some r := by
  unfold resolveId at h
  split at h
  · rename_i id hv
    split at h
    · cases h
    · rename_i r' hc
      cases h
      exact .inr ⟨id, hv, hc⟩
  · rename_i hv
    cases h
    exact .inl ⟨hv, rfl⟩

def participantCourseDataV (tv : Option (Option (Option J × Option J × Option J))) (co : CoursesOut) :
    M PCData :=
  match tv with
  | none => .error "No 'tracks' found in registration"
  | some none => .error "Registration track data not present"
  | some (some (cid, cin, chs)) =>
    match cid with
    | none => .error "No 'course_id' found in registration track"
    | some cidv =>
      match resolveId co cidv "Assigned course" with
      | .error e => .error e
      | .ok assigned =>
        match cin with
        | none => .error "No 'course_instructor' found in registration"
        | some civ =>
          match resolveId co civ "Instructed course" with
          | .error e => .error e
          | .ok instructed =>
            match chs.bind J.asArray with
            | none => .error "No 'choices' found in registration track data"
            | some chs =>
              match participantCourseData.go co 0 [] chs with
              | .error e => .error e
              | .ok choices => .ok { assigned, instructed, choices }

theorem participantCourseData_eq_view (reg : J) (trackId : Nat) (co : CoursesOut) :
    participantCourseData reg trackId co = participantCourseDataV (trackView reg trackId) co := by
  unfold participantCourseData trackView participantCourseDataV
  generalize toString trackId = key
  cases (reg.get "tracks").bind J.asObject with
  | none => rfl
  | some tracks =>
    dsimp only [Option.map_some]
    cases (J.lookup key tracks).bind J.asObject with
    | none => rfl
    | some rt =>
      dsimp only [Option.map_some]
      cases J.lookup "course_id" rt with
      | none => rfl
      | some cidv =>
        dsimp only
        cases J.lookup "course_instructor" rt with
        | none => rfl
        | some civ => rfl

theorem participantCourseData_ok_iff {reg : J} {t : Nat} {co : CoursesOut} {pc : PCData} :
    participantCourseData reg t co = .ok pc ↔
    ∃ cid cin chs arr, trackView reg t = some (some (some cid, some cin, chs)) ∧
      resolveId co cid "Assigned course" = .ok pc.assigned ∧
      resolveId co cin "Instructed course" = .ok pc.instructed ∧
      chs.bind J.asArray = some arr ∧ participantCourseData.go co 0 [] arr = .ok pc.choices := by
  rw [participantCourseData_eq_view]
  unfold participantCourseDataV
  constructor
  · intro h
    iterate 7 (split at h <;> try contradiction)
    cases h
    exact ⟨_, _, _, _, ‹_›, ‹_›, ‹_›, ‹_›, ‹_›⟩
  · rintro ⟨cid, cin, chs, arr, h1, h2, h3, h4, h5⟩
    simp only [h1, h2, h3, h4, h5]

/-- the `parts` object of the event, as `read` fetches it -/
def eventParts (data : J) : Option (List (String × J)) :=
  ((data.get "event").bind J.asObject).bind fun ev => (J.lookup "parts" ev).bind J.asObject

def coursesOf (e : J) : Option (List (String × J)) := (e.get "courses").bind J.asObject
def regsOf (e : J) : Option (List (String × J)) := (e.get "registrations").bind J.asObject

theorem eventParts_eq {data : J} {ev evparts : List (String × J)}
    (h1 : (data.get "event").bind J.asObject = some ev)
    (h2 : (J.lookup "parts" ev).bind J.asObject = some evparts) : eventParts data = some evparts := by
  unfold eventParts
  rw [h1, Option.bind_some, h2]

theorem read_error_of_checkVersion {data : J} (o : Opts) (h : ∃ e, checkVersion data = .error e) :
    ∃ e, read data o = .error e := by
  obtain ⟨e, he⟩ := h
  exact ⟨e, by unfold read; rw [he]⟩

def ambOf (o : Opts) (trackId eid : Nat) (tn : String) (co : CoursesOut) (s : RState) : Ambience :=
  { eventId := eid, trackId := trackId,
    external := if o.ignoreAssigned then some (s.extInstr, s.extPen) else none,
    trackName := if o.track.isSome then some tn else none,
    ignoredCourses := if o.ignoreCancelled then some co.numIgnored else none,
    ignoredRegs := if o.ignoreAssigned then some s.numIgnored else none }

theorem read_ok_iff {data : J} {o : Opts} {r : List Part × List Course × Ambience} :
    read data o = .ok r ↔
    ∃ ts ev evparts partId trackId td cdata co rdata s eid tn,
      checkVersion data = .ok () ∧ (data.get "timestamp").bind J.asStr = some ts ∧
      timestampOk ts = true ∧ (data.get "event").bind J.asObject = some ev ∧
      (J.lookup "parts" ev).bind J.asObject = some evparts ∧
      findTrack evparts o.track = .ok (partId, trackId, td) ∧
      coursesOf data = some cdata ∧ readCourses cdata trackId o = .ok co ∧
      regsOf data = some rdata ∧ readRegs rdata partId trackId td co o = .ok s ∧
      (data.get "id").bind J.asU64 = some eid ∧ (J.lookup "shortname" td).bind J.asStr = some tn ∧
      r = (s.parts, s.courses.map adapt, ambOf o trackId eid tn co s) := by
  unfold read coursesOf regsOf
  constructor
  · intro h
    -- one `split` per stage; the failing alternative of each comes first and contradicts `h`; in the last
    -- stage (the track's name) the failing alternative is the second
    iterate 11 (split at h; cases h)
    split at h <;> cases h
    have ht := ‹¬ _›
    simp only [Bool.not_eq_true', Bool.not_eq_false] at ht
    exact ⟨_, _, _, _, _, _, _, _, _, _, _, _, ‹_›, ‹_›, ht, ‹_›, ‹_›, ‹_›, ‹_›, ‹_›,
      ‹_›, ‹_›, ‹_›, ‹_›, rfl⟩
  · rintro ⟨ts, ev, evparts, partId, trackId, td, cdata, co, rdata, s, eid, tn, h1, h2, h3,
      h4, h5, h6, h7, h8, h9, h10, h11, h12, rfl⟩
    simp only [h1, h2, h3, h4, h5, h6, h7, h8, h9, h10, h11, h12, Bool.not_true, Bool.false_eq_true,
      if_false, ambOf]

end CD
