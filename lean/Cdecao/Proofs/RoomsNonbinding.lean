import Cdecao.Proofs.NodeEng
import Cdecao.Proofs.SpecExec
import Cdecao.Proofs.NodeRoom
/-! A room list that cannot bind changes nothing (C17): if every room among the `I.C` largest is at least as
large as any course can become (`NonBinding`), the node solver returns at every node literally the same
result as on the room-free problem `I.noRooms`; hence the two search trees coincide and the parallel engine
passes through the same configurations.

Route: everything before `roomStage` reads only `I.cs` / `I.ps` (`noRooms_*`); `roomStage` answers
`.ok none` because the rank-by-rank check passes (`checkRoom_true_iff`): every
effective size is `0` or `R.eff c cnt` with `cnt` the number of participants assigned to `c`, and
`cnt ≤ numMax + #instructors` (`node_count_le`): the attendees of `c` occupy distinct live columns of
`c` (`G.attendees_le_cols`, `CtxOK.cap`), the others are listed in `instructors`. -/
namespace N2
open H2

def Inst.noRooms (I : Inst) : Inst := { I with rooms := none }

section noRooms
variable (I : Inst) (nd : Node)

theorem noRooms_cs : I.noRooms.cs = I.cs := rfl
theorem noRooms_ps : I.noRooms.ps = I.ps := rfl
theorem noRooms_C : I.noRooms.C = I.C := rfl
theorem noRooms_P : I.noRooms.P = I.P := rfl
theorem noRooms_course : I.noRooms.course = I.course := rfl
theorem noRooms_part : I.noRooms.part = I.part := rfl
theorem noRooms_instructorOnly : I.noRooms.instructorOnly = I.instructorOnly := rfl
theorem noRooms_precomputeOk : I.noRooms.precomputeOk = I.precomputeOk := rfl
theorem noRooms_maxSkipped : I.noRooms.maxSkipped = I.maxSkipped := rfl
theorem noRooms_skipXBase : skipXBase I.noRooms nd = skipXBase I nd := rfl
theorem noRooms_effMax : effMax I.noRooms nd = effMax I nd := rfl
theorem noRooms_numSkipY : numSkipY I.noRooms nd = numSkipY I nd := rfl
theorem noRooms_instrOf : instrOf I.noRooms nd = instrOf I nd := rfl

theorem noRooms_inv : inv I.noRooms = inv I := by
  funext c; rw [inv_eq, inv_eq]; rfl

theorem noRooms_m : I.noRooms.m = I.m := by
  simp only [Inst.m, noRooms_inv, noRooms_C]

theorem noRooms_colCourse : I.noRooms.colCourse = I.colCourse := by
  funext cp; rw [Inst.colCourse, Inst.colCourse, courseOf_eq, courseOf_eq]; rfl

theorem noRooms_colPos : I.noRooms.colPos = I.colPos := by
  funext cp; simp only [Inst.colPos, noRooms_colCourse, noRooms_inv]

theorem noRooms_n : I.noRooms.n = I.n := by
  simp only [Inst.n, noRooms_m, noRooms_maxSkipped, noRooms_P]

theorem noRooms_weight : I.noRooms.weight = I.weight := by
  funext x cp; simp only [Inst.weight, noRooms_P, noRooms_part, noRooms_colCourse]

theorem noRooms_numSkipX : numSkipX I.noRooms nd = numSkipX I nd := by
  simp only [numSkipX, noRooms_n, noRooms_skipXBase]

theorem noRooms_skipY : skipY I.noRooms nd = skipY I nd := by
  funext cp; simp only [skipY, noRooms_effMax, noRooms_colCourse, noRooms_colPos]

theorem noRooms_mandY : mandY I.noRooms nd = mandY I nd := by
  funext cp; simp only [mandY, noRooms_colCourse, noRooms_colPos, noRooms_course]

theorem noRooms_assign (mm : Nat → Nat) : assign I.noRooms nd mm = assign I nd mm := by
  funext p; simp only [assign, matchedOf, noRooms_instrOf, noRooms_m, noRooms_skipY, noRooms_colCourse]

theorem noRooms_checkFeas : checkFeas I.noRooms nd = checkFeas I nd := rfl

theorem noRooms_nodeInp : nodeInp I.noRooms nd = nodeInp I nd := by
  simp only [nodeInp, noRooms_n, noRooms_m, noRooms_P, noRooms_weight, noRooms_numSkipX, noRooms_numSkipY,
    noRooms_skipXBase, noRooms_mandY, noRooms_skipY]
  rfl

theorem noRooms_guards : guards I.noRooms nd = guards I nd := by
  simp only [guards, noRooms_n, noRooms_m, noRooms_P, noRooms_C, noRooms_numSkipX, noRooms_numSkipY,
    noRooms_skipXBase, noRooms_mandY, noRooms_skipY, noRooms_precomputeOk, noRooms_course, noRooms_part,
    noRooms_effMax]
  rfl

theorem noRooms_feasStage (a : Nat → Option Nat) (s : Nat) :
    feasStage I.noRooms nd a s = feasStage I nd a s := by
  simp only [feasStage, noRooms_checkFeas, noRooms_nodeInp, noRooms_P, noRooms_course]
  rfl

theorem noRooms_roomStage (R : RoomFns) (a : Nat → Option Nat) (s : Nat) :
    roomStage I.noRooms R nd a s = .ok none := rfl

theorem noRooms_bonusOf : bonusOf I.noRooms nd = bonusOf I nd := rfl

theorem noRooms_asgOf (mm : Vec Nat) : asgOf I.noRooms nd mm = asgOf I nd mm := by
  simp only [asgOf, noRooms_P, noRooms_assign]

end noRooms

theorem countP_contains_le (L : List Nat) (n : Nat) :
    (List.range n).countP (fun p => L.contains p) ≤ L.length := by
  rw [countP_range_eq_card]
  refine le_trans (Finset.card_le_card ?_) (List.toFinset_card_le L)
  intro p hp
  simp only [Finset.mem_filter, List.contains_iff_mem] at hp
  exact List.mem_toFinset.2 hp.2

theorem G.count_le {I : Inst} {X : G.Ctx} (ok : G.CtxOK I X) {c : Nat} (hc : c < I.C) :
    (List.range I.P).countP (fun p => G.assign I X p == some c)
      ≤ (I.course c).numMax + (I.course c).instructors.length := by
  -- those who do not instruct `c` attend it, in distinct live columns; the others are its instructors
  rw [List.countP_eq_countP_filter_add _ _ (fun p => !I.instructs p c), List.countP_filter,
    List.countP_filter]
  refine Nat.add_le_add (le_trans (G.attendees_le_cols I X c) (ok.cap c hc))
    (le_trans (List.countP_mono_left fun p _ hp => ?_) (countP_contains_le _ I.P))
  rw [Bool.and_eq_true, Bool.not_not] at hp
  exact hp.2

theorem node_count_le (I : Inst) (nd : Node) (hI : InstOK I) (hn : NodeOK I nd) (mm : Vec Nat)
    (hperf : Perfect (probOf (nodeInp I nd)) mm.get) (c : Nat) (hc : c < I.C) :
    (List.range I.P).countP (fun p => (Vec.tab I.P (assign I nd mm.get)).get p == some c)
      ≤ (I.course c).numMax + (I.course c).instructors.length := by
  refine le_trans (Nat.le_of_eq ?_) (G.count_le (ctxOK I nd hI hn mm hperf) hc)
  apply List.countP_congr
  intro p hp
  rw [Vec.get_tab]
  simp [List.mem_range.1 hp, assign_eq]

/-- the non-binding hypothesis: every room among the `I.C` largest (`padded = I.roomSizes`) is at
    least as large as any course can become -/
def NonBinding (I : Inst) (R : RoomFns) (padded : List Nat) : Prop :=
  ∀ c, c < I.C → ∀ n, n ≤ (I.course c).numMax + (I.course c).instructors.length →
    ∀ r ∈ padded, R.eff c n ≤ r

theorem roomStage_of_nonBinding {I : Inst} {R : RoomFns} (nd : Node) {a : Nat → Option Nat} (s : Nat)
    {padded : List Nat} (hp : I.roomSizes = some padded) (hnb : NonBinding I R padded)
    (hcnt : ∀ c, c < I.C → (List.range I.P).countP (fun p => a p == some c)
      ≤ (I.course c).numMax + (I.course c).instructors.length) :
    roomStage I R nd a s = .ok none :=
  roomStage_eq_none_iff.2 fun rooms hr => by
    cases hp.symm.trans hr
    -- whichever size meets whichever room: each effective size is at most each room
    refine checkRoom_true_iff.2 ((RG.codeOk_iff _ _).2 fun s r hsr => ?_)
    obtain ⟨hs, hr⟩ := List.of_mem_zip hsr
    simp only [RG.sortedDesc, List.mem_mergeSort, effSizes, List.map_map, List.mem_map, List.mem_range] at hs
    obtain ⟨c, hc, rfl⟩ := hs
    dsimp only [Function.comp_apply]
    split
    · exact Nat.zero_le _
    · exact hnb c hc _ (hcnt c hc) r hr

theorem rooms_nonbinding (I : Inst) (R : RoomFns) (nd : Node) (padded : List Nat)
    (hp : I.roomSizes = some padded) (hI : InstOK I) (hn : NodeOK I nd)
    (hnb : NonBinding I R padded) : runNodeS I R nd = runNodeS I.noRooms R nd := by
  unfold runNodeS
  rw [noRooms_guards, noRooms_nodeInp]
  cases hg : guards I nd with
  | some r => rfl
  | none =>
    dsimp only
    have hgp := (guards_eq_none_iff I nd).1 hg
    cases hrun : H2.run (nodeInp I nd) with
    | none => rfl
    | some res =>
      obtain ⟨mm, sc⟩ := res
      dsimp only
      obtain ⟨hperf, -, -⟩ := node_matching hgp hrun
      -- on both sides the room stage lets the node pass, so `post` is the feasibility stage
      rw [post_eq, post_eq, noRooms_roomStage, noRooms_feasStage, noRooms_asgOf, noRooms_bonusOf,
        roomStage_of_nonBinding (a := asgOf I nd mm) nd _ hp hnb (node_count_le I nd hI hn mm hperf)]

end N2

namespace Eng3
variable {ν σ : Type}

/-- `S` and `S'` give the same verdict and the same children at `n` -/
def AgreeAt (S S' : Solver ν σ) (n : ν) : Prop := S.res n = S'.res n ∧ S.kids n = S'.kids n

theorem AgreeAt.symm {S S' : Solver ν σ} {n : ν} (h : AgreeAt S S' n) : AgreeAt S' S n := ⟨h.1.symm, h.2.symm⟩

theorem desc_congr {S S' : Solver ν σ} {root : ν}
    (h : ∀ n, @Desc ν σ S n root → AgreeAt S S' n) :
    ∀ f t, @Desc ν σ S t root → (@Desc ν σ S f t ↔ @Desc ν σ S' f t) := by
  -- below `root` the two solvers push the same children, and these are below `root` again
  have hp : ∀ {k t}, @Desc ν σ S t root → (k ∈ @pushed ν σ S t ↔ k ∈ @pushed ν σ S' t) :=
    fun ht => by unfold pushed; rw [(h _ ht).1, (h _ ht).2]
  have hk : ∀ {k t}, @Desc ν σ S t root → k ∈ @pushed ν σ S t → @Desc ν σ S k root :=
    fun ht hk => @desc_trans ν σ S _ _ _ (@Desc.step ν σ S _ _ _ hk (@Desc.refl ν σ S _)) ht
  intro f t ht
  constructor <;> intro hd
  · induction hd with
    | refl => exact @Desc.refl ν σ S' _
    | step hk' _ ih => exact @Desc.step ν σ S' _ _ _ ((hp ht).1 hk') (ih (hk ht hk'))
  · induction hd with
    | refl => exact @Desc.refl ν σ S _
    | step hk' _ ih => exact @Desc.step ν σ S _ _ _ ((hp ht).2 hk') (ih (hk ht ((hp ht).2 hk')))

theorem step?_congr {S S' : Solver ν σ} {c : Cfg ν σ} (ev : Ev)
    (h : ∀ (t : Nat) (n : ν), c.pcs[t]? = some (Pc.want (some n)) → AgreeAt S S' n) :
    @step? ν σ S c ev = @step? ν σ S' c ev := by
  cases ev with
  | acquire t =>
    -- only the branch that has a result in hand asks the solver
    simp only [step?]
    split
    · rfl
    next n _ ht => unfold applyRes; rw [(h t n ht).1, (h t n ht).2]
    · rfl
  | _ => rfl

theorem reach_of_agree {S S' : Solver ν σ} {root : ν} (h : ∀ n, @Desc ν σ S n root → AgreeAt S S' n)
    {top T : Nat} {c : Cfg ν σ} (hr : @Reach ν σ S root top T c) : @Reach ν σ S' root top T c := by
  induction hr with
  | init => exact @Reach.init ν σ S' _ _ _
  | @step c ev c' hr hs ih =>
    have hinv := @reach_solinv ν σ S _ _ _ _ hr
    refine @Reach.step ν σ S' _ _ _ c ev c' ih ?_
    rw [← step?_congr (S := S) (S' := S') ev]
    · exact hs
    · intro t n ht
      exact h n (@SolInv.fly ν σ S _ _ hinv _ (List.mem_of_getElem? ht) n rfl)

theorem reach_congr {S S' : Solver ν σ} {root : ν} (h : ∀ n, @Desc ν σ S n root → AgreeAt S S' n)
    (top T : Nat) (c : Cfg ν σ) : @Reach ν σ S root top T c ↔ @Reach ν σ S' root top T c :=
  ⟨reach_of_agree h, reach_of_agree fun n hn =>
    (h n ((desc_congr h n root (@Desc.refl ν σ S root)).2 hn)).symm⟩

end Eng3

namespace N2
open H2

theorem solver_agree {I : Inst} {R : RoomFns} {padded : List Nat} (hp : I.roomSizes = some padded)
    (hI : InstOK I) (hnb : NonBinding I R padded) {nd : Node} (hn : NodeOK2 I nd) :
    Eng3.AgreeAt (solverOf I R) (solverOf I.noRooms R) nd := by
  have := rooms_nonbinding I R nd padded hp hI hn.nodeOK hnb
  exact ⟨by simp only [Eng3.Solver.res, this], by simp only [Eng3.Solver.kids, this]⟩

theorem solver_agree_desc {I : Inst} {R : RoomFns} {padded : List Nat} (hp : I.roomSizes = some padded)
    (hI : InstOK I) (hnb : NonBinding I R padded) (n : Node)
    (hd : @Eng3.Desc Node (List (Option Nat)) (solverOf I R) n rootNode) :
    Eng3.AgreeAt (solverOf I R) (solverOf I.noRooms R) n :=
  solver_agree hp hI hnb (tree_ok2 hd)

theorem roomSizes_mem {I : Inst} {rooms padded : List Nat} (hr : I.rooms = some rooms)
    (hp : I.roomSizes = some padded) (hlen : I.C ≤ rooms.length) : ∀ r ∈ padded, r ∈ rooms := by
  simp only [Inst.roomSizes, hr, Option.map_some, Option.some.injEq] at hp
  subst hp
  intro r hr
  have hl : (rooms.foldr insertDesc []).length = rooms.length := (foldr_insertDesc_perm rooms).length_eq
  rw [hl, Nat.sub_eq_zero_of_le hlen, List.replicate_zero, List.append_nil] at hr
  exact (foldr_insertDesc_perm rooms).mem_iff.1 (List.mem_of_mem_take hr)

/-- at least as many rooms as courses, each room large enough for every course at its largest -/
theorem nonBinding_of_all (I : Inst) (R : RoomFns) (rooms padded : List Nat) (hr : I.rooms = some rooms)
    (hp : I.roomSizes = some padded) (hlen : I.C ≤ rooms.length)
    (hall : ∀ c, c < I.C → ∀ n, n ≤ (I.course c).numMax + (I.course c).instructors.length →
      ∀ r ∈ rooms, R.eff c n ≤ r) : NonBinding I R padded :=
  fun c hc n hn r hrp => hall c hc n hn r (roomSizes_mem hr hp hlen r hrp)

theorem nonBinding_witness :
    let I : Inst := { cs := [⟨1, 2, false, [0]⟩, ⟨0, 3, true, []⟩]
                      ps := [⟨[]⟩, ⟨[⟨0, 0⟩, ⟨1, 5⟩]⟩, ⟨[⟨1, 0⟩]⟩]
                      rooms := some [4, 1, 5] }
    let R : RoomFns := ⟨fun _ n => n + 1, fun _ r => r - 1⟩
    I.rooms = some [4, 1, 5] ∧ I.roomSizes = some [5, 4] ∧ InstOK2 I ∧ NodeOK2 I rootNode ∧
      NonBinding I R [5, 4] := by
  intro I R
  refine ⟨rfl, by decide, (validb_sound I (by decide)).1, rootNode_ok2 I, ?_⟩
  intro c hc n hn r hr
  -- both courses hold at most 3 people
  have hn3 : n ≤ 3 := by
    obtain rfl | rfl : c = 0 ∨ c = 1 := by have : I.C = 2 := rfl; omega
    · exact hn
    · exact hn
  simp only [List.mem_cons, List.not_mem_nil, or_false] at hr
  show n + 1 ≤ r
  omega

/-- non-vacuity: two courses (sizes ≤ 2 + 1 and ≤ 3 + 0), three rooms, the two largest hold 4 and 5 -/
example :
    let I : Inst := { cs := [⟨1, 2, false, [0]⟩, ⟨0, 3, true, []⟩]
                      ps := [⟨[]⟩, ⟨[⟨0, 0⟩, ⟨1, 5⟩]⟩, ⟨[⟨1, 0⟩]⟩]
                      rooms := some [4, 1, 5] }
    let R : RoomFns := ⟨fun _ n => n + 1, fun _ r => r - 1⟩
    I.roomSizes = some [5, 4] ∧ InstOK2 I ∧ NodeOK2 I rootNode ∧ NonBinding I R [5, 4] :=
  nonBinding_witness.2

#print axioms rooms_nonbinding
end N2
