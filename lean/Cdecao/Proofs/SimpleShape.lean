import Cdecao.Model.Simple
import Cdecao.Model.Listing
/-! Lemmas for the simple-format reader (`SM.read`): `mapM'` entry by entry, `dedup` as core's
    `eraseDups`, what each scalar and member reader accepts; a structured form (`LM'.blocks`) of the
    printed listing. Core only. -/

theorem List.map_eq_map_iff_getElem {α β γ : Type} {f : α → γ} {g : β → γ} {l : List α} {r : List β} :
    l.map f = r.map g ↔
      r.length = l.length ∧ ∀ i (h : i < l.length) (h' : i < r.length), f l[i] = g r[i] := by
  simp only [List.ext_getElem_iff, List.length_map, List.getElem_map, eq_comm (a := l.length)]

namespace SM
open JS

theorem mapM'_eq_ok_iff {α β : Type} {f : α → M β} {l : List α} {r : List β} :
    mapM' f l = .ok r ↔ l.map f = r.map .ok := by
  induction l generalizing r with
  | nil => cases r <;> simp [mapM']
  | cons x xs ih =>
    rw [mapM']
    cases hx : f x with
    | error e => cases r <;> simp [hx]
    | ok y =>
      cases hxs : mapM' f xs with
      | error e => cases r <;> simp [hx, ← ih, hxs]
      | ok ys => cases r <;> simp [hx, ← ih, hxs]

theorem mapM'_ok_iff {α β : Type} {f : α → M β} {l : List α} {r : List β} :
    mapM' f l = .ok r ↔
      r.length = l.length ∧ ∀ i (h : i < l.length) (h' : i < r.length), f l[i] = .ok r[i] :=
  mapM'_eq_ok_iff.trans List.map_eq_map_iff_getElem

theorem dedup_eq_eraseDups : ∀ (l seen : List Nat),
    dedup seen l = (l.filter (fun x => !seen.contains x)).eraseDups
  | [], _ => by simp [dedup]
  | y :: ys, seen => by
    simp only [dedup]
    by_cases hy : seen.contains y = true
    · rw [if_pos hy, List.filter_cons_of_neg (by simpa using hy), dedup_eq_eraseDups ys seen]
    · rw [if_neg hy, List.filter_cons_of_pos (by simpa using hy), List.eraseDups_cons,
        dedup_eq_eraseDups ys (y :: seen), List.filter_filter]
      congr 2
      apply List.filter_congr
      intro x _
      simp only [List.contains_cons, Bool.not_or]

theorem field_ok {kv : List (String × J)} {k : String} {v : J} (h : field kv k = .ok v) :
    J.lookup k kv = some v := by
  unfold field at h
  split at h
  · rename_i w hw; cases h; exact hw
  · cases h

theorem field_bind_ok {β : Type} {kv : List (String × J)} {k : String} {g : J → M β} {b : β}
    (h : (field kv k).bind g = .ok b) : ∃ v, J.lookup k kv = some v ∧ g v = .ok b := by
  cases hf : field kv k with
  | error e => rw [hf] at h; cases h
  | ok v => rw [hf] at h; exact ⟨v, field_ok hf, h⟩

theorem optField_ok {β : Type} {kv : List (String × J)} {k : String} {f : J → M β} {d b : β}
    (h : optField kv k f d = .ok b) :
    (J.lookup k kv = none ∧ b = d) ∨ ∃ v, J.lookup k kv = some v ∧ f v = .ok b := by
  unfold optField at h
  split at h
  · rename_i hn; cases h; exact Or.inl ⟨hn, rfl⟩
  · rename_i v hv; exact Or.inr ⟨v, hv, h⟩

theorem asUsize_ok {j : J} {n : Nat} (h : asUsize j = .ok n) :
    j = .num (.pos n) ∧ n ≤ J.U64_MAX := by
  unfold asUsize at h
  repeat' split at h
  all_goals cases h
  exact ⟨rfl, ‹_›⟩

theorem asU32_ok {j : J} {n : Nat} (h : asU32 j = .ok n) :
    j = .num (.pos n) ∧ n ≤ U32_MAX := by
  unfold asU32 at h
  repeat' split at h
  all_goals cases h
  exact ⟨rfl, ‹_›⟩

theorem asStr_some {j : J} {s : String} (h : j.asStr = some s) : j = .str s := by
  cases j <;> simp [J.asStr] at h
  subst h; rfl

theorem asBool_some {j : J} {b : Bool} (h : j.asBool = some b) : j = .bool b := by
  cases j <;> simp [J.asBool] at h
  subst h; rfl

theorem asVec_ok {β : Type} {f : J → M β} {j : J} {r : List β} (h : asVec f j = .ok r) :
    ∃ l, j = .arr l ∧ mapM' f l = .ok r := by
  unfold asVec at h
  split at h
  · rename_i l; exact ⟨l, rfl, h⟩
  · cases h

/-- if every success of `f` determines its input (`f x = ok y → x = g y`), a successfully read
    array is the image of its reading -/
theorem asVec_inv {β : Type} {f : J → M β} (g : β → J) (hg : ∀ x y, f x = .ok y → x = g y)
    {j : J} {r : List β} (h : asVec f j = .ok r) : j = .arr (r.map g) := by
  obtain ⟨l, rfl, hm⟩ := asVec_ok h
  obtain ⟨hl, hi⟩ := mapM'_ok_iff.1 hm
  exact congrArg J.arr (List.ext_getElem (by simp [hl]) fun i h₁ h₂ => by
    rw [List.getElem_map]; exact hg _ _ (hi i h₁ (hl ▸ h₁)))

theorem field_usize_ok {kv : List (String × J)} {k : String} {n : Nat}
    (h : (field kv k).bind asUsize = .ok n) : J.lookup k kv = some (.num (.pos n)) ∧ n ≤ J.U64_MAX := by
  obtain ⟨v, hv, h2⟩ := field_bind_ok h
  obtain ⟨rfl, h3⟩ := asUsize_ok h2
  exact ⟨hv, h3⟩

theorem optF32_ok {kv : List (String × J)} {k : String} {x : Option Num}
    (h : optField kv k (fun v => (asF32 v).map some) none = .ok x) :
    (J.lookup k kv = none ∧ x = none) ∨ ∃ n, J.lookup k kv = some (.num n) ∧ x = some n := by
  rcases optField_ok h with ⟨h1, h2⟩ | ⟨v, hv, h2⟩
  · exact Or.inl ⟨h1, h2⟩
  · cases v <;> simp [asF32, Except.map] at h2
    rename_i n; exact Or.inr ⟨n, hv, h2.symm⟩

theorem read_ok_iff {j : J} {ps : List PartD} {cs : List CourseD} :
    read j = .ok (ps, cs) ↔ ∃ pv cv, j.get "participants" = some (.arr pv) ∧
      j.get "courses" = some (.arr cv) ∧ mapM' partOf pv = .ok ps ∧ mapM' courseOf cv = .ok cs := by
  constructor
  · intro h
    unfold read at h
    -- every stage fails (then `h` is absurd) or delivers its value
    repeat' split at h
    all_goals cases h
    rename_i _ pj hpj _ _ cj hcj _ hparts hcourses
    obtain ⟨pv, rfl, hp⟩ := asVec_ok hparts
    obtain ⟨cv, rfl, hc⟩ := asVec_ok hcourses
    exact ⟨pv, cv, hpj, hcj, hp, hc⟩
  · rintro ⟨pv, cv, hp, hc, hps, hcs⟩
    simp only [read, hp, hc, asVec, hps, hcs]

theorem accepts_iff {j : J} :
    accepts j = true ↔ ∃ ps cs, read j = .ok (ps, cs) ∧ validate ps cs = true := by
  unfold accepts
  cases read j with
  | error e => exact ⟨nofun, fun ⟨_, _, h, _⟩ => nomatch h⟩
  | ok r =>
    obtain ⟨ps, cs⟩ := r
    exact ⟨fun h => ⟨ps, cs, rfl, h⟩, fun ⟨_, _, h, hv⟩ => by cases h; exact hv⟩

theorem toInst_P (ps : List PartD) (cs : List CourseD) (rooms : Option (List Nat)) :
    (toInst ps cs rooms).P = ps.length := by
  simp [toInst, N2.Inst.P]

theorem toInst_C (ps : List PartD) (cs : List CourseD) (rooms : Option (List Nat)) :
    (toInst ps cs rooms).C = cs.length := by
  simp [toInst, N2.Inst.C]

end SM

namespace LM'
open N2 LM

/-- what is printed for one course -/
structure Block where
  /-- the name in the `===== … =====` header -/
  name : String
  /-- the number in "(… participants incl. instructors)" -/
  count : Nat
  /-- the "(possible course rooms: …)" line, when rooms are given -/
  rooms : Option String
  /-- the "- name[ (instr)]" lines: participant index, instructor flag -/
  entries : List (Nat × Bool)
  /-- the names under "further attendees (not optimized):" -/
  hidden : List String

def block (I : Inst) (a : Nat → Option Nat) (cnames : List String) (hidden : List (List String))
    (rooms : Option (List String)) (c : Nat) : Block :=
  { name := cnames.getD c ""
    count := (entries I a c).length + (hidden.getD c []).length
    rooms := rooms.map (fun r => r.getD c "")
    entries := entries I a c
    hidden := hidden.getD c [] }

def blocks (I : Inst) (a : Nat → Option Nat) (cnames : List String) (hidden : List (List String))
    (rooms : Option (List String)) : List Block :=
  (List.range I.C).map (block I a cnames hidden rooms)

/-- `pname`: participant index ↦ printed name -/
def renderBlock (pname : Nat → String) (b : Block) : String :=
  "\n===== " ++ b.name ++ " =====\n" ++
  "(" ++ toString b.count ++ " participants incl. instructors)\n" ++
  (match b.rooms with
   | some r => "(possible course rooms: " ++ r ++ ")\n"
   | none => "") ++
  String.join (b.entries.map (fun (p, ins) => "- " ++ pname p ++ (if ins then " (instr)" else "") ++ "\n")) ++
  (if b.hidden.isEmpty then "" else
    "further attendees (not optimized):\n" ++ String.join (b.hidden.map (fun n => "- " ++ n ++ "\n")))

theorem renderBlock_block (I : Inst) (a : Nat → Option Nat) (cnames pnames : List String)
    (hidden : List (List String)) (rooms : Option (List String)) (c : Nat) :
    renderBlock (fun p => pnames.getD p "") (block I a cnames hidden rooms c) =
      renderCourse I a (cnames.getD c "") (fun p => pnames.getD p "") (hidden.getD c [])
        (rooms.map (fun r => r.getD c "")) c := rfl

theorem blocks_getElem {I : Inst} {a : Nat → Option Nat} {cnames : List String}
    {hidden : List (List String)} {rooms : Option (List String)} {c : Nat}
    (h : c < (blocks I a cnames hidden rooms).length) :
    (blocks I a cnames hidden rooms)[c] = block I a cnames hidden rooms c := by
  simp [blocks]

theorem entries_length (I : Inst) (a : Nat → Option Nat) (c : Nat) :
    (entries I a c).length = (List.range I.P).countP (fun p => a p == some c) := by
  simp [entries, List.countP_eq_length_filter]

end LM'
