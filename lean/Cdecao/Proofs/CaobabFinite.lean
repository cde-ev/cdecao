import Mathlib.Algebra.Order.BigOperators.Group.Finset
import Cdecao.Proofs.NodeEng
import Cdecao.Proofs.NodeDecide
import Cdecao.Engine.Account
/-! The search tree of the caobab node solver is finite, for every instance and every room arithmetic (no
    validity hypothesis): the child relation `k ∈ pushed n` is well-founded because every pushed child is
    smaller in the measure `mu I B`; `treeSize`, defined by recursion on it, counts the nodes below a node,
    and `5 * treeSize` is a `Budget` in the sense of the engine's termination and work-bound theorems (C04). -/
namespace N2
open H2

theorem pushed_wf (I : Inst) (R : RoomFns) :
    letI := solverOf I R
    WellFounded (fun k n : Node => k ∈ Eng3.pushed n) := by
  let S := solverOf I R
  obtain ⟨B, hB⟩ := exists_B I R
  apply Subrelation.wf (r := InvImage (· < ·) (mu I B)) _ (InvImage.wf (mu I B) Nat.lt_wfRel.wf)
  -- every pushed child is strictly smaller in the measure `mu I B`
  intro k n hk
  obtain ⟨kids, sc, hrun, hmem⟩ := mem_pushed hk
  exact node_prog I R n B hB kids sc hrun k hmem

/-- the number of nodes of the search tree below `n` (`n` included; one per path from `n`), by
    well-founded recursion on the child relation -/
noncomputable def treeSize (I : Inst) (R : RoomFns) : Node → Nat :=
  letI := solverOf I R
  (pushed_wf I R).fix (C := fun _ => Nat)
    (fun n rec => 1 + ((Eng3.pushed n).attach.map (fun k => rec k.1 k.2)).sum)

theorem treeSize_eq (I : Inst) (R : RoomFns) (n : Node) :
    letI := solverOf I R
    treeSize I R n = 1 + ((Eng3.pushed n).map (treeSize I R)).sum := by
  let S := solverOf I R
  rw [← List.attach_map_val (f := treeSize I R), treeSize, WellFounded.fix_eq]

theorem treeSize_pos (I : Inst) (R : RoomFns) (n : Node) : 1 ≤ treeSize I R n := by
  rw [treeSize_eq]; omega

theorem treeSize_leaf (I : Inst) (R : RoomFns) (n : Node)
    (h : letI := solverOf I R; Eng3.pushed n = []) : treeSize I R n = 1 := by
  rw [treeSize_eq, h]; rfl

/-- `treeSize` is the least function `size` with `1 + Σ_{k ∈ pushed n} size k ≤ size n` -/
theorem treeSize_le (I : Inst) (R : RoomFns) (size : Node → Nat)
    (h : letI := solverOf I R; ∀ n : Node, 1 + ((Eng3.pushed n).map size).sum ≤ size n) (n : Node) :
    treeSize I R n ≤ size n := by
  let S := solverOf I R
  induction n using (pushed_wf I R).induction with
  | _ n ih =>
    rw [treeSize_eq]
    exact Nat.le_trans (Nat.add_le_add_left (List.sum_le_sum ih) 1) (h n)

theorem caobab_budget_treeSize (I : Inst) (R : RoomFns) :
    letI := solverOf I R
    Eng3.Budget (fun n : Node => 5 * treeSize I R n) := by
  let S := solverOf I R
  apply Eng3.budget_of_size (treeSize I R)
  intro n
  exact Nat.le_of_eq (treeSize_eq I R n).symm

/-- the tree below `n`, unfolded to any depth, has at most `treeSize I R n` entries, and every
    descendant of `n` shows up in some unfolding: the set of descendants is finite -/
theorem caobab_subtree (I : Inst) (R : RoomFns) :
    letI := solverOf I R
    (∀ d (n : Node), (Eng3.subtree d n).length ≤ treeSize I R n) ∧
    (∀ m n : Node, Eng3.Desc m n → ∃ d, m ∈ Eng3.subtree d n) := by
  let S := solverOf I R
  refine ⟨fun d n => ?_, fun m n h => Eng3.desc_subtree h⟩
  have : 5 * (Eng3.subtree d n).length ≤ 5 * treeSize I R n :=
    Eng3.budget_subtree (caobab_budget_treeSize I R) d n
  omega

/-! Non-vacuity, a tree of three nodes: X(min 2, max 2), Y(min 0, max 5, instructor p1); p0 and p1 both choose X; no room list (the witness
of finding F1).  The root is infeasible with two children, both without solution: `treeSize = 3`,
so at most 3 subproblems are generated and a run with one thread and no wake-up takes at most
`15 + 3 + 3 = 21` steps. -/
section Example
def exI : Inst :=
  { cs := [⟨2, 2, false, []⟩, ⟨0, 5, false, [1]⟩], ps := [⟨[⟨0, 0⟩]⟩, ⟨[⟨0, 0⟩]⟩], rooms := none }

theorem exI_root (R : RoomFns) :
    runNodeS exI R rootNode = .ok (.infeasible [⟨[], [0], []⟩, ⟨[0], [], []⟩] 100000) :=
  runNodeS_of_noRooms rfl R (by decide +kernel)
theorem exI_enforce (R : RoomFns) : runNodeS exI R ⟨[], [0], []⟩ = .ok .noSol :=
  runNodeS_of_noRooms rfl R (by decide +kernel)
theorem exI_cancel (R : RoomFns) : runNodeS exI R ⟨[0], [], []⟩ = .ok .noSol :=
  runNodeS_of_noRooms rfl R (by decide +kernel)

theorem exI_treeSize (R : RoomFns) : treeSize exI R rootNode = 3 := by
  have h1 : treeSize exI R ⟨[], [0], []⟩ = 1 :=
    treeSize_leaf exI R _ (pushed_of_noSol (exI_enforce R))
  have h2 : treeSize exI R ⟨[0], [], []⟩ = 1 :=
    treeSize_leaf exI R _ (pushed_of_noSol (exI_cancel R))
  rw [treeSize_eq, pushed_of_infeasible (exI_root R)]
  simp [h1, h2]
end Example

#print axioms pushed_wf
#print axioms treeSize_eq
#print axioms treeSize_le
#print axioms caobab_budget_treeSize
#print axioms caobab_subtree
end N2
