import Cdecao.Proofs.ReaderResult
/-! `CD.read` depends only on the members it looks up (C13): a per-record parser is the same on records
with the same views, so the two loops, and the reader, give the same result on exports that agree
record by record; the `*_congr` lemmas say which changes of an export leave a view as it is. -/
namespace CD
open JS

theorem participantBase_local {reg reg' : J} {partId : Nat}
    (h1 : statusView reg partId = statusView reg' partId) (h2 : personaView reg = personaView reg') :
    participantBase reg partId = participantBase reg' partId := by
  rw [participantBase_eq_view, participantBase_eq_view, h1, h2]

theorem parseCourseBase_local {c c' : J} {trackId : Nat}
    (hs : segView c trackId = segView c' trackId) (h1 : c.get "nr" = c'.get "nr")
    (h2 : c.get "shortname" = c'.get "shortname") (h3 : c.get "max_size" = c'.get "max_size")
    (h4 : c.get "min_size" = c'.get "min_size") :
    parseCourseBase c trackId = parseCourseBase c' trackId := by
  rw [parseCourseBase_eq_view, parseCourseBase_eq_view, hs, h1, h2, h3, h4]

theorem roomFields_local {c c' : J} (o : Opts) (h : c.get "fields" = c'.get "fields") :
    roomFields c o = roomFields c' o := by
  unfold roomFields; rw [h]


/-- the selected track's segment entry may differ only by flipping between `true` and `false`, and
    only when cancelled courses are not ignored -/
def SegAgree (o : Opts) (trackId : Nat) (c c' : J) : Prop :=
  segView c trackId = segView c' trackId ∨
  (o.ignoreCancelled = false ∧ ∃ b b', segView c trackId = some (some (.bool b)) ∧
      segView c' trackId = some (some (.bool b')))

/-- two course records agree on everything the reader looks at -/
structure CourseAgree (o : Opts) (trackId : Nat) (c c' : J) : Prop where
  seg : SegAgree o trackId c c'
  nr : c.get "nr" = c'.get "nr"
  shortname : c.get "shortname" = c'.get "shortname"
  max_size : c.get "max_size" = c'.get "max_size"
  min_size : c.get "min_size" = c'.get "min_size"
  fields : c.get "fields" = c'.get "fields"

/-- the status is handed through: two statuses give the same parse up to that component -/
theorem parseCourseBaseV_status (st st' : CStatus) (nr sn mx mn : Option J) :
    parseCourseBaseV (.ok st) nr sn mx mn =
      (parseCourseBaseV (.ok st') nr sn mx mn).map fun r => (r.1, st, r.2.2) := by
  unfold parseCourseBaseV
  cases nr.bind J.asStr with
  | none => rfl
  | some _ =>
    cases sn.bind J.asStr with
    | none => rfl
    | some _ =>
      dsimp only
      split <;> rfl

theorem courseStep_agree {o : Opts} {trackId : Nat} (st : List (String × Course) × List Nat × Nat)
    (k : String) {v v' : J} (h : CourseAgree o trackId v v') :
    courseStep trackId o st (k, v) = courseStep trackId o st (k, v') := by
  unfold courseStep
  simp only [roomFields_local o h.fields]
  rcases h.seg with hs | ⟨hic, b, b', hb, hb'⟩
  · rw [parseCourseBase_local hs h.nr h.shortname h.max_size h.min_size]
  · -- both segments are booleans: the records parse alike up to the status, and without
    -- `ignoreCancelled` both statuses are kept ones
    have hst : ∀ b : Bool, ∃ s, segStatus (some (some (.bool b))) = .ok s ∧ keptStatus o s = true := by
      intro b
      cases b
      · exact ⟨.cancelled, rfl, by unfold keptStatus; rw [hic]; rfl⟩
      · exact ⟨.takesPlace, rfl, rfl⟩
    obtain ⟨s, e, hk⟩ := hst b
    obtain ⟨s', e', hk'⟩ := hst b'
    rw [parseCourseBase_eq_view, parseCourseBase_eq_view, hb, hb', h.nr, h.shortname, h.max_size,
      h.min_size, e, e', parseCourseBaseV_status s s', parseCourseBaseV_status s' s']
    cases parseNat k with
    | none => rfl
    | some cid =>
      cases parseCourseBaseV (.ok s') (v'.get "nr") (v'.get "shortname") (v'.get "max_size")
        (v'.get "min_size") with
      | error _ => rfl
      | ok r => simp only [Except.map, hk, hk', if_true]

/-- two objects with the same keys in the same order whose values are related by `R` -/
inductive ObjAgree (R : J → J → Prop) : List (String × J) → List (String × J) → Prop
  | nil : ObjAgree R [] []
  | cons {k : String} {v v' : J} {l l' : List (String × J)} :
      R v v' → ObjAgree R l l' → ObjAgree R ((k, v) :: l) ((k, v') :: l')

theorem foldlM_objAgree {ε σ : Type} {R : J → J → Prop} {f : σ → String × J → Except ε σ}
    (hf : ∀ s k v v', R v v' → f s (k, v) = f s (k, v')) {l l' : List (String × J)}
    (h : ObjAgree R l l') : ∀ s, l.foldlM f s = l'.foldlM f s := by
  induction h with
  | nil => intro _; rfl
  | @cons k v v' l l' hv _ ih =>
    intro s
    rw [List.foldlM_cons, List.foldlM_cons, hf s k v v' hv]
    exact congrArg _ (funext ih)

theorem readCourses_agree {o : Opts} {trackId : Nat} {l l' : List (String × J)}
    (h : ObjAgree (CourseAgree o trackId) l l') :
    readCourses l trackId o = readCourses l' trackId o := by
  unfold readCourses
  rw [readCourses_go_eq, readCourses_go_eq,
    foldlM_objAgree (fun st k _ _ hv => courseStep_agree st k hv) h]


theorem participantCourseData_local {reg reg' : J} {trackId : Nat} (co : CoursesOut)
    (h : trackView reg trackId = trackView reg' trackId) :
    participantCourseData reg trackId co = participantCourseData reg' trackId co := by
  rw [participantCourseData_eq_view, participantCourseData_eq_view, h]

/-- a `course_id` value `participantCourseData` accepts: not a u64 (e.g. null), or a known course id -/
def AssignedOk (co : CoursesOut) (v : J) : Prop :=
  ∀ id, v.asU64 = some id → courseIndex co id ≠ none

theorem resolveId_ok (co : CoursesOut) (v : J) (what : String) (h : AssignedOk co v) :
    ∃ a, resolveId co v what = .ok a := by
  unfold resolveId
  cases hv : v.asU64 with
  | none => exact ⟨none, rfl⟩
  | some id =>
    cases hc : courseIndex co id with
    | none => exact absurd hc (h id hv)
    | some r => exact ⟨r, by simp only [hc]⟩

def forgetAssigned (pc : PCData) : PCData := { pc with assigned := none }

theorem pcdV_assigned_free {co : CoursesOut} {cid cid' : J} (cin chs : Option J)
    (h : AssignedOk co cid) (h' : AssignedOk co cid') :
    (participantCourseDataV (some (some (some cid, cin, chs))) co).map forgetAssigned =
      (participantCourseDataV (some (some (some cid', cin, chs))) co).map forgetAssigned := by
  obtain ⟨a, ha⟩ := resolveId_ok co cid "Assigned course" h
  obtain ⟨a', ha'⟩ := resolveId_ok co cid' "Assigned course" h'
  unfold participantCourseDataV
  simp only [ha, ha']
  cases cin with
  | none => rfl
  | some civ =>
    dsimp only
    cases resolveId co civ "Instructed course" with
    | error e => rfl
    | ok instructed =>
      dsimp only
      cases chs.bind J.asArray with
      | none => rfl
      | some l =>
        dsimp only
        cases participantCourseData.go co 0 [] l with
        | error e => rfl
        | ok choices => rfl

theorem regApply_assigned_free (td : List (String × J)) (o : Opts) (s : RState) (rid : Nat)
    (name : String) (pc : PCData) (h : o.ignoreAssigned = false) :
    regApply td o s rid name pc = regApply td o s rid name (forgetAssigned pc) := by
  unfold regApply forgetAssigned
  simp only [h, Bool.false_eq_true, if_false]

/-- without `ignoreAssigned` the loop body factors through `forgetAssigned` -/
theorem map_regApply_forget (td : List (String × J)) {o : Opts} (s : RState) (rid : Nat) (name : String)
    (h : o.ignoreAssigned = false) (r : M PCData) :
    r.map (regApply td o s rid name) = (r.map forgetAssigned).map (regApply td o s rid name) := by
  cases r with
  | error e => rfl
  | ok pc => exact congrArg Except.ok (regApply_assigned_free td o s rid name pc h)

/-- the selected track's record may differ only in its `course_id` value, among values the parser
    accepts, and only when assigned participants are not ignored -/
def TrackAgree (o : Opts) (trackId : Nat) (co : CoursesOut) (reg reg' : J) : Prop :=
  trackView reg trackId = trackView reg' trackId ∨
  (o.ignoreAssigned = false ∧ ∃ cid cid' cin chs,
     trackView reg trackId = some (some (some cid, cin, chs)) ∧
     trackView reg' trackId = some (some (some cid', cin, chs)) ∧
     AssignedOk co cid ∧ AssignedOk co cid')

/-- two registration records agree on everything the reader looks at -/
structure RegAgree (o : Opts) (partId trackId : Nat) (co : CoursesOut) (reg reg' : J) : Prop where
  status : statusView reg partId = statusView reg' partId
  persona : personaView reg = personaView reg'
  track : TrackAgree o trackId co reg reg'

theorem regStep_agree {partId trackId : Nat} (td : List (String × J)) {co : CoursesOut} {o : Opts}
    (s : RState) (k : String) {v v' : J} (h : RegAgree o partId trackId co v v') :
    regStep partId trackId td co o s (k, v) = regStep partId trackId td co o s (k, v') := by
  unfold regStep
  simp only [participantBase_local h.status h.persona]
  rcases h.track with ht | ⟨hia, cid, cid', cin, chs, h1, h2, hc, hc'⟩
  · rw [participantCourseData_local co ht]
  · cases parseNat k with
    | none => rfl
    | some rid =>
      dsimp only
      cases participantBase v' partId with
      | error e => rfl
      | ok r =>
        obtain ⟨isP, name⟩ := r
        cases isP with
        | false => rfl
        | true =>
          simp only [Bool.not_true, Bool.false_eq_true, if_false]
          refine (map_regApply_forget td s rid name hia _).trans
            (Eq.trans ?_ (map_regApply_forget td s rid name hia _).symm)
          rw [participantCourseData_eq_view, participantCourseData_eq_view, h1, h2,
            pcdV_assigned_free cin chs hc hc']

theorem readRegs_agree {partId trackId : Nat} (td : List (String × J)) {co : CoursesOut} {o : Opts}
    {l l' : List (String × J)} (h : ObjAgree (RegAgree o partId trackId co) l l') :
    readRegs l partId trackId td co o = readRegs l' partId trackId td co o := by
  unfold readRegs
  rw [readRegs_go_eq, readRegs_go_eq]
  exact foldlM_objAgree (fun s k _ _ hv => regStep_agree td s k hv) h _

theorem checkVersion_local {e e' : J} (h1 : e.get "kind" = e'.get "kind")
    (h2 : e.get "EVENT_SCHEMA_VERSION" = e'.get "EVENT_SCHEMA_VERSION")
    (h3 : e.get "CDEDB_EXPORT_EVENT_VERSION" = e'.get "CDEDB_EXPORT_EVENT_VERSION") :
    checkVersion e = checkVersion e' := by
  unfold checkVersion
  rw [h1, h2, h3]

/-- a `course_id` value the parser accepts, phrased on the export: not a u64 (e.g. null), or the
    key of a course of the export -/
def AssignedOkE (cdata : List (String × J)) (v : J) : Prop :=
  ∀ id, v.asU64 = some id → id ∈ courseIds cdata

/-- `TrackAgree` phrased on the export (course keys instead of `courseIndex`) -/
def TrackAgreeE (o : Opts) (trackId : Nat) (cdata : List (String × J)) (reg reg' : J) : Prop :=
  trackView reg trackId = trackView reg' trackId ∨
  (o.ignoreAssigned = false ∧ ∃ cid cid' cin chs,
     trackView reg trackId = some (some (some cid, cin, chs)) ∧
     trackView reg' trackId = some (some (some cid', cin, chs)) ∧
     AssignedOkE cdata cid ∧ AssignedOkE cdata cid')

/-- two registration records agree on everything the reader looks at (phrased on the export) -/
structure RegAgreeE (o : Opts) (partId trackId : Nat) (cdata : List (String × J)) (reg reg' : J) : Prop where
  status : statusView reg partId = statusView reg' partId
  persona : personaView reg = personaView reg'
  track : TrackAgreeE o trackId cdata reg reg'

inductive OptAgree {α : Type} (R : α → α → Prop) : Option α → Option α → Prop
  | none : OptAgree R none none
  | some {a b : α} : R a b → OptAgree R (some a) (some b)

/-- `e` and `e'` agree on every member the reader looks
    at, for the selected part `partId` and track `trackId`. They may differ in: any top-level
    member other than kind / EVENT_SCHEMA_VERSION / CDEDB_EXPORT_EVENT_VERSION / timestamp / event /
    courses / registrations / id; any course member other than segments[trackId] / nr / shortname /
    max_size / min_size / fields; the true/false value of segments[trackId] when cancelled courses
    are kept; any registration member other than parts[partId].status, persona.given_names,
    persona.family_name, tracks[trackId].{course_id, course_instructor, choices}; and the value of
    tracks[trackId].course_id (among accepted values) when assigned participants are not ignored. -/
structure Agree (o : Opts) (partId trackId : Nat) (e e' : J) : Prop where
  kind : e.get "kind" = e'.get "kind"
  schema : e.get "EVENT_SCHEMA_VERSION" = e'.get "EVENT_SCHEMA_VERSION"
  legacy : e.get "CDEDB_EXPORT_EVENT_VERSION" = e'.get "CDEDB_EXPORT_EVENT_VERSION"
  timestamp : e.get "timestamp" = e'.get "timestamp"
  event : e.get "event" = e'.get "event"
  id : e.get "id" = e'.get "id"
  /-- `partId`, `trackId` are the part and track `findTrack` selects -/
  selected : ∀ parts p t td, eventParts e = some parts → findTrack parts o.track = .ok (p, t, td) →
    p = partId ∧ t = trackId
  courses : OptAgree (ObjAgree (CourseAgree o trackId)) (coursesOf e) (coursesOf e')
  regs : OptAgree (ObjAgree (RegAgreeE o partId trackId ((coursesOf e).getD []))) (regsOf e) (regsOf e')

theorem ObjAgree.imp {R S : J → J → Prop} (h : ∀ a b, R a b → S a b) {l l' : List (String × J)}
    (hl : ObjAgree R l l') : ObjAgree S l l' := by
  induction hl with
  | nil => exact .nil
  | cons hv _ ih => exact .cons (h _ _ hv) ih

theorem regAgree_of_E {o : Opts} {partId trackId : Nat} {cdata : List (String × J)} {co : CoursesOut}
    (hco : readCourses cdata trackId o = .ok co) {reg reg' : J}
    (h : RegAgreeE o partId trackId cdata reg reg') : RegAgree o partId trackId co reg reg' := by
  refine ⟨h.status, h.persona, ?_⟩
  rcases h.track with ht | ⟨hia, cid, cid', cin, chs, h1, h2, hc, hc'⟩
  · exact Or.inl ht
  · refine Or.inr ⟨hia, cid, cid', cin, chs, h1, h2, ?_, ?_⟩
    · intro id hid; exact (courseIndex_known hco id).2 (hc id hid)
    · intro id hid; exact (courseIndex_known hco id).2 (hc' id hid)

theorem read_agree {o : Opts} {partId trackId : Nat} {e e' : J} (h : Agree o partId trackId e e') :
    read e o = read e' o := by
  have hc := h.courses
  have hr := h.regs
  unfold coursesOf at hc hr
  unfold regsOf at hr
  unfold read
  rw [← checkVersion_local h.kind h.schema h.legacy, ← h.timestamp, ← h.event, ← h.id]
  cases checkVersion e with
  | error err => rfl
  | ok u =>
    dsimp only
    cases (e.get "timestamp").bind J.asStr with
    | none => rfl
    | some ts =>
      dsimp only
      cases timestampOk ts with
      | false => rfl
      | true =>
        -- both sides take the `else` branch
        refine (if_neg (by decide)).trans (Eq.trans ?_ (if_neg (by decide)).symm)
        cases hev : (e.get "event").bind J.asObject with
        | none => rfl
        | some ev =>
          dsimp only
          cases hp : (J.lookup "parts" ev).bind J.asObject with
          | none => rfl
          | some parts =>
            dsimp only
            cases hft : findTrack parts o.track with
            | error err => rfl
            | ok r =>
              obtain ⟨p, t, td⟩ := r
              obtain ⟨rfl, rfl⟩ := h.selected parts p t td (eventParts_eq hev hp) hft
              dsimp only
              revert hc hr
              generalize (e.get "courses").bind J.asObject = c1
              generalize (e'.get "courses").bind J.asObject = c2
              generalize (e.get "registrations").bind J.asObject = r1
              generalize (e'.get "registrations").bind J.asObject = r2
              intro hc hr
              cases hc with
              | none => rfl
              | @some cdata cdata' hcd =>
                dsimp only
                rw [← readCourses_agree hcd]
                cases hco : readCourses cdata t o with
                | error err => rfl
                | ok co =>
                  dsimp only
                  cases hr with
                  | none => rfl
                  | @some rdata rdata' hrd =>
                    simp only [Option.getD_some] at hrd
                    have := readRegs_agree td (hrd.imp fun _ _ => regAgree_of_E hco)
                    dsimp only
                    rw [← this]

theorem ObjAgree.refl {R : J → J → Prop} (hR : ∀ a, R a a) : ∀ l : List (String × J), ObjAgree R l l
  | [] => .nil
  | (_, _) :: rest => .cons (hR _) (ObjAgree.refl hR rest)

theorem OptAgree.refl {α : Type} {R : α → α → Prop} (hR : ∀ a, R a a) : ∀ x : Option α, OptAgree R x x
  | Option.none => OptAgree.none
  | Option.some a => OptAgree.some (hR a)

theorem exists_selected (o : Opts) (e : J) :
    ∃ partId trackId, ∀ parts p t td, eventParts e = some parts →
      findTrack parts o.track = .ok (p, t, td) → p = partId ∧ t = trackId := by
  cases he : eventParts e with
  | none => exact ⟨0, 0, fun _ _ _ _ h => by cases h⟩
  | some parts =>
    cases hf : findTrack parts o.track with
    | error err =>
      refine ⟨0, 0, fun parts' p t td h h' => ?_⟩
      cases h; rw [hf] at h'; cases h'
    | ok r =>
      obtain ⟨p0, t0, td0⟩ := r
      refine ⟨p0, t0, fun parts' p t td h h' => ?_⟩
      cases h; rw [hf] at h'
      simp only [Except.ok.injEq, Prod.mk.injEq] at h'
      exact ⟨h'.1.symm, h'.2.1.symm⟩

/-- other members of `parts[partId]` than `status`, and other parts' records, do not matter -/
theorem statusView_congr (reg reg' : J) (partId : Nat) (ps ps' p p' : List (String × J))
    (h1 : reg.get "parts" = some (.obj ps)) (h1' : reg'.get "parts" = some (.obj ps'))
    (h2 : J.lookup (toString partId) ps = some (.obj p))
    (h2' : J.lookup (toString partId) ps' = some (.obj p'))
    (h3 : J.lookup "status" p = J.lookup "status" p') :
    statusView reg partId = statusView reg' partId := by
  unfold statusView
  rw [h1, h1']
  simp only [Option.bind_some, J.asObject, Option.map_some]
  rw [h2, h2']
  simp only [Option.bind_some, J.asObject, Option.map_some, h3]

/-- other `persona` members than the two names do not matter -/
theorem personaView_congr (reg reg' : J) (p p' : List (String × J))
    (h1 : reg.get "persona" = some (.obj p)) (h1' : reg'.get "persona" = some (.obj p'))
    (h2 : J.lookup "given_names" p = J.lookup "given_names" p')
    (h3 : J.lookup "family_name" p = J.lookup "family_name" p') :
    personaView reg = personaView reg' := by
  unfold personaView
  rw [h1, h1']
  simp only [Option.bind_some, J.asObject, Option.map_some, h2, h3]

/-- other tracks' records, and other members of the selected track's record, do not matter -/
theorem trackView_congr (reg reg' : J) (trackId : Nat) (ts ts' rt rt' : List (String × J))
    (h1 : reg.get "tracks" = some (.obj ts)) (h1' : reg'.get "tracks" = some (.obj ts'))
    (h2 : J.lookup (toString trackId) ts = some (.obj rt))
    (h2' : J.lookup (toString trackId) ts' = some (.obj rt'))
    (h3 : J.lookup "course_id" rt = J.lookup "course_id" rt')
    (h4 : J.lookup "course_instructor" rt = J.lookup "course_instructor" rt')
    (h5 : J.lookup "choices" rt = J.lookup "choices" rt') :
    trackView reg trackId = trackView reg' trackId := by
  unfold trackView
  rw [h1, h1']
  simp only [Option.bind_some, J.asObject, Option.map_some]
  rw [h2, h2']
  simp only [Option.bind_some, J.asObject, Option.map_some, h3, h4, h5]

/-- other top-level members of a registration than `parts` / `persona` / `tracks` do not matter -/
theorem regAgreeE_of_get (o : Opts) (partId trackId : Nat) (cdata : List (String × J)) (reg reg' : J)
    (h1 : reg.get "parts" = reg'.get "parts") (h2 : reg.get "persona" = reg'.get "persona")
    (h3 : reg.get "tracks" = reg'.get "tracks") : RegAgreeE o partId trackId cdata reg reg' :=
  ⟨by unfold statusView; rw [h1], by unfold personaView; rw [h2], Or.inl (by unfold trackView; rw [h3])⟩

/-- other tracks' segment entries do not matter -/
theorem segView_congr (c c' : J) (trackId : Nat) (sg sg' : List (String × J))
    (h1 : c.get "segments" = some (.obj sg)) (h1' : c'.get "segments" = some (.obj sg'))
    (h2 : J.lookup (toString trackId) sg = J.lookup (toString trackId) sg') :
    segView c trackId = segView c' trackId := by
  unfold segView
  rw [h1, h1']
  simp only [Option.bind_some, J.asObject, Option.map_some, h2]

/-- replace or add the member `k` of an object -/
def setKey (k : String) (v : J) : List (String × J) → List (String × J)
  | [] => [(k, v)]
  | (k', v') :: rest => if k' == k then (k, v) :: rest else (k', v') :: setKey k v rest

theorem lookup_setKey_ne (k k' : String) (v : J) (hne : k' ≠ k) :
    ∀ kv : List (String × J), J.lookup k' (setKey k v kv) = J.lookup k' kv
  | [] => by
    have : (k == k') = false := by simpa using (Ne.symm hne)
    simp [setKey, J.lookup, this]
  | (k0, v0) :: rest => by
    unfold setKey
    by_cases h0 : (k0 == k) = true
    · have e : k0 = k := by simpa using h0
      subst e
      have : (k0 == k') = false := by simpa using (Ne.symm hne)
      simp [J.lookup, this]
    · simp only [h0, Bool.false_eq_true, if_false, J.lookup]
      rw [lookup_setKey_ne k k' v hne rest]

section Example
private def exEvent : J :=
  .obj [("parts", .obj [("1", .obj [("tracks", .obj [("3", .obj [("shortname", .str "T")])])])])]
private def exO : Opts :=
  { track := some 3, ignoreCancelled := false, ignoreAssigned := false, factorField := none, offsetField := none }

private def exE : J := .obj [
  ("EVENT_SCHEMA_VERSION", .arr [.num (.pos 17), .num (.pos 0)]),
  ("courses", .obj [("7", .obj [("fields", .obj []), ("nr", .str "1"),
      ("segments", .obj [("3", .bool true), ("4", .bool true)]), ("shortname", .str "x"), ("title", .str "X")])]),
  ("event", exEvent),
  ("id", .num (.pos 1)),
  ("kind", .str "partial"),
  ("registrations", .obj [("100", .obj [
      ("notes", .str "a"),
      ("parts", .obj [("1", .obj [("lodgement_id", .null), ("status", .num (.pos 2))])]),
      ("persona", .obj [("family_name", .str "F"), ("given_names", .str "G"), ("username", .str "u")]),
      ("tracks", .obj [("3", .obj [("choices", .arr [.num (.pos 7)]), ("course_id", .null),
                                   ("course_instructor", .null)]),
                       ("4", .obj [("course_id", .null)])])])]),
  ("timestamp", .str "2024-01-01T00:00:00+00:00")]

/-- differs from `exE` in: a top-level `lodgements` member; the course's `title`, its segment of
    track 4, and the true/false value of its segment of track 3; the registration's `notes`, the
    part's `lodgement_id`, the persona's `username`, the record of track 4, and `course_id` of
    track 3 (null → the known course 7) -/
private def exE' : J := .obj [
  ("EVENT_SCHEMA_VERSION", .arr [.num (.pos 17), .num (.pos 0)]),
  ("courses", .obj [("7", .obj [("fields", .obj []), ("nr", .str "1"),
      ("segments", .obj [("3", .bool false), ("4", .bool false)]), ("shortname", .str "x"), ("title", .str "Y")])]),
  ("event", exEvent),
  ("id", .num (.pos 1)),
  ("kind", .str "partial"),
  ("lodgements", .obj [("5", .obj [])]),
  ("registrations", .obj [("100", .obj [
      ("notes", .str "b"),
      ("parts", .obj [("1", .obj [("lodgement_id", .num (.pos 5)), ("status", .num (.pos 2))])]),
      ("persona", .obj [("family_name", .str "F"), ("given_names", .str "G"), ("username", .str "v")]),
      ("tracks", .obj [("3", .obj [("choices", .arr [.num (.pos 7)]), ("course_id", .num (.pos 7)),
                                   ("course_instructor", .null)]),
                       ("4", .obj [("course_id", .num (.pos 7))])])])]),
  ("timestamp", .str "2024-01-01T00:00:00+00:00")]

private theorem exAgree : Agree exO 1 3 exE exE' :=
  { kind := rfl, schema := rfl, legacy := rfl, timestamp := rfl, event := rfl, id := rfl,
    selected := by
      intro parts p t td h1 h2
      have : parts = [("1", .obj [("tracks", .obj [("3", .obj [("shortname", .str "T")])])])] := by
        have h0 : eventParts exE = some [("1", .obj [("tracks", .obj [("3", .obj [("shortname", .str "T")])])])] := rfl
        rw [h0] at h1; exact (Option.some.inj h1).symm
      subst this
      have h3 : findTrack [("1", J.obj [("tracks", .obj [("3", .obj [("shortname", .str "T")])])])] exO.track =
          .ok (1, 3, [("shortname", .str "T")]) := rfl
      rw [h3] at h2
      simp only [Except.ok.injEq, Prod.mk.injEq] at h2
      exact ⟨h2.1.symm, h2.2.1.symm⟩
    courses := by
      refine OptAgree.some (a := [("7", _)]) (b := [("7", _)]) (.cons ⟨?_, rfl, rfl, rfl, rfl, rfl⟩ .nil)
      exact Or.inr ⟨rfl, true, false, rfl, rfl⟩
    regs := by
      refine OptAgree.some (a := [("100", _)]) (b := [("100", _)]) (.cons ⟨rfl, rfl, ?_⟩ .nil)
      refine Or.inr ⟨rfl, .null, .num (.pos 7), some .null, some (.arr [.num (.pos 7)]), rfl, rfl, ?_, ?_⟩
      · intro id h; cases h
      · intro id h
        have : (J.num (.pos 7)).asU64 = some 7 := by decide
        rw [this] at h; cases h
        decide }

example : read exE exO = read exE' exO := read_agree exAgree
end Example

end CD

#print axioms CD.participantBase_local
#print axioms CD.parseCourseBase_local
#print axioms CD.participantCourseData_local
#print axioms CD.regApply_assigned_free
#print axioms CD.readCourses_agree
#print axioms CD.readRegs_agree
#print axioms CD.read_agree
