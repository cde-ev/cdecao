import Cdecao.Proofs.ReaderCore
import Cdecao.Proofs.LastIdx
/-! What a successful `CD.read` returns, member by member (C12). Every per-record parser factors through a
*view* of the members it looks up; the registration loop simulates the typed loop `RD.read`, and the
course loop is a filter, a sort and a count of the entries. In the order in which `read` runs: the track,
the courses, the registrations, the result. Core only (no Mathlib). -/
namespace CD
open JS

/-- the `tracks` object of an event part, as `findTrack` fetches it -/
def partTracks (pv : J) : Option (List (String × J)) := (pv.get "tracks").bind J.asObject

/-- total number of course tracks over all event parts -/
def trackCount : List (String × J) → Nat
  | [] => 0
  | kv :: rest => ((partTracks kv.2).getD []).length + trackCount rest

/-- the inner loop without a selected track counts the tracks it passes: `isSome.toNat` of the
    carried result is the number found so far, and a second one is an error -/
theorem goTracksN_ok {pk : String} :
    ∀ {tracks : List (String × J)} {result r : Option (Nat × Nat × List (String × J))},
      findTrack.goTracksN pk result tracks = .ok r →
      r.isSome.toNat = result.isSome.toNat + tracks.length
  | [], _, _, h => by cases h; rfl
  | (tk, tv) :: rest, result, r, h => by
    unfold findTrack.goTracksN at h
    cases result with
    | some x => cases h
    | none =>
      simp only [Option.isSome_none, Bool.false_eq_true, if_false] at h
      iterate 3 (split at h; cases h)
      have := goTracksN_ok h
      simp only [Option.isSome_some, Option.isSome_none, Bool.toNat_true, Bool.toNat_false,
        List.length_cons] at this ⊢
      omega

theorem goPartsN_ok :
    ∀ {parts : List (String × J)} {result : Option (Nat × Nat × List (String × J))}
      {r : Nat × Nat × List (String × J)},
      findTrack.goPartsN result parts = .ok r → result.isSome.toNat + trackCount parts = 1
  | [], result, r, h => by
    unfold findTrack.goPartsN at h
    cases result with
    | none => cases h
    | some x => rfl
  | (pk, pv) :: rest, result, r, h => by
    unfold findTrack.goPartsN at h
    unfold trackCount partTracks
    split at h
    · cases h
    rename_i tracks ht
    split at h
    · cases h
    rename_i r1 hg
    have h1 := goTracksN_ok hg
    have h2 := goPartsN_ok h
    simp only [ht, Option.getD_some]
    omega

theorem findTrack_none_ok {parts : List (String × J)} {r : Nat × Nat × List (String × J)}
    (h : findTrack parts none = .ok r) : trackCount parts = 1 := by
  simpa using goPartsN_ok (result := none) h

theorem findTrack_none_refuse {parts : List (String × J)} (h : trackCount parts ≠ 1) :
    ∃ e, findTrack parts none = .error e := by
  cases hr : findTrack parts none with
  | error e => exact ⟨e, rfl⟩
  | ok r => exact absurd (findTrack_none_ok hr) h

theorem findTrack_none_no_track (parts : List (String × J)) (h : trackCount parts = 0) :
    ∃ e, findTrack parts none = .error e :=
  findTrack_none_refuse (by omega)

theorem findTrack_none_two_tracks (parts : List (String × J)) (h : 2 ≤ trackCount parts) :
    ∃ e, findTrack parts none = .error e :=
  findTrack_none_refuse (by omega)

theorem goTracks_absent {t : Nat} (pk : String) {tracks : List (String × J)}
    (h : ∀ tk ∈ tracks, parseNat tk.1 ≠ some t) :
    (∃ e, findTrack.goTracks t pk tracks = .error e) ∨ findTrack.goTracks t pk tracks = .ok none := by
  induction tracks with
  | nil => right; rfl
  | cons a rest ih =>
    obtain ⟨tk, tv⟩ := a
    unfold findTrack.goTracks
    cases hp : parseNat tk with
    | none => left; exact ⟨_, rfl⟩
    | some tid =>
      have hne : tid ≠ t := by
        intro e; subst e
        exact h (tk, tv) (List.mem_cons_self ..) hp
      have : (tid == t) = false := by simpa using hne
      simp only [this, Bool.false_eq_true, if_false]
      exact ih (fun x hx => h x (List.mem_cons_of_mem _ hx))

theorem findTrack_some_absent (parts : List (String × J)) (t : Nat)
    (h : ∀ kv ∈ parts, ∀ tr, partTracks kv.2 = some tr → ∀ tk ∈ tr, parseNat tk.1 ≠ some t) :
    ∃ e, findTrack parts (some t) = .error e := by
  show ∃ e, findTrack.goParts t parts = .error e
  induction parts with
  | nil => exact ⟨_, rfl⟩
  | cons a rest ih =>
    obtain ⟨pk, pv⟩ := a
    unfold findTrack.goParts
    -- the discriminant is `partTracks pv` unfolded, so `ht` is the premise `h` asks for
    cases ht : (pv.get "tracks").bind J.asObject with
    | none => exact ⟨_, rfl⟩
    | some tracks =>
      dsimp only
      rcases goTracks_absent pk (h (pk, pv) (List.mem_cons_self ..) tracks ht) with ⟨e, he⟩ | he
      · rw [he]; exact ⟨_, rfl⟩
      · rw [he]
        exact ih (fun kv hkv => h kv (List.mem_cons_of_mem _ hkv))

section Example
private def exParts2 : List (String × J) :=
  [("1", .obj [("tracks", .obj [("3", .obj [])])]), ("2", .obj [("tracks", .obj [("4", .obj [])])])]
example : 2 ≤ trackCount exParts2 := by decide +kernel
example : ∀ kv ∈ exParts2, ∀ tr, partTracks kv.2 = some tr → ∀ tk ∈ tr, parseNat tk.1 ≠ some 5 := by
  decide +kernel
example : trackCount [("1", .obj [("tracks", .obj [])])] = 0 := by decide +kernel
end Example

/-- what `parseCourseBase` reads of `segments`: is there a `segments` object, and in it the member
    of the selected track -/
def segView (cdata : J) (trackId : Nat) : Option (Option J) :=
  ((cdata.get "segments").bind J.asObject).map fun segs => J.lookup (toString trackId) segs

def segStatus : Option (Option J) → M CStatus
  | none => .error "No 'segments' object found for course"
  | some none => .ok .notOffered
  | some (some v) =>
    match v.asBool with
    | none => .error "Segment of course is not a boolean."
    | some true => .ok .takesPlace
    | some false => .ok .cancelled

def parseCourseBaseV (status : M CStatus) (nr sn mx mn : Option J) :
    M (String × CStatus × Nat × Nat × String) :=
  match status with
  | .error e => .error e
  | .ok st =>
    match nr.bind J.asStr with
    | none => .error "No 'nr' found for course"
    | some nr =>
      match sn.bind J.asStr with
      | none => .error "No 'shortname' found for course"
      | some sn =>
        let numMax := (mx.bind J.asU64).getD Const.DEFAULT_MAX_SIZE
        let numMin := (mn.bind J.asU64).getD Const.DEFAULT_MIN_SIZE
        if numMax < numMin then .error "Min participants > max participants" else
        .ok (nr ++ ". " ++ sn, st, numMin, numMax, sortKey nr)

theorem parseCourseBase_eq_view (cdata : J) (trackId : Nat) :
    parseCourseBase cdata trackId =
      parseCourseBaseV (segStatus (segView cdata trackId)) (cdata.get "nr") (cdata.get "shortname")
        (cdata.get "max_size") (cdata.get "min_size") := by
  unfold parseCourseBase segView
  generalize toString trackId = key
  cases (cdata.get "segments").bind J.asObject with
  | none => rfl
  | some segs =>
    dsimp only [Option.map_some]
    cases J.lookup key segs with
    | none => rfl
    | some v =>
      unfold segStatus
      cases v.asBool with
      | none => rfl
      | some b => cases b <;> rfl

/-- the status the reader derives from the selected track's segment entry -/
def statusOfSeg : Option (Option J) → Option CStatus
  | some none => some .notOffered
  | some (some (.bool true)) => some .takesPlace
  | some (some (.bool false)) => some .cancelled
  | _ => none

theorem segStatus_ok {sv : Option (Option J)} {s : CStatus} (h : segStatus sv = .ok s) :
    statusOfSeg sv = some s := by
  unfold segStatus at h
  split at h
  · cases h
  · cases h; rfl
  · rename_i v
    cases hb : v.asBool with
    | none => simp only [hb] at h; cases h
    | some b =>
      cases asBool_eq_some hb
      cases b <;> cases h <;> rfl

theorem parseCourseBase_ok {v : J} {trackId : Nat} {name : String} {s : CStatus} {mn mx : Nat}
    {key : String} (h : parseCourseBase v trackId = .ok (name, s, mn, mx, key)) :
    ∃ nr sn, (v.get "nr").bind J.asStr = some nr ∧ (v.get "shortname").bind J.asStr = some sn ∧
      name = nr ++ ". " ++ sn ∧ key = sortKey nr ∧
      mn = ((v.get "min_size").bind J.asU64).getD Const.DEFAULT_MIN_SIZE ∧
      mx = ((v.get "max_size").bind J.asU64).getD Const.DEFAULT_MAX_SIZE ∧
      mn ≤ mx ∧ statusOfSeg (segView v trackId) = some s := by
  rw [parseCourseBase_eq_view] at h
  unfold parseCourseBaseV at h
  iterate 3 (split at h; cases h)
  rename_i _ st hst _ nr hnr _ sn hsn
  dsimp only at h
  split at h
  · cases h
  rename_i hlt
  cases h
  exact ⟨nr, sn, hnr, hsn, rfl, rfl, rfl, rfl, Nat.le_of_not_lt hlt, segStatus_ok hst⟩

/-- the (sort key, course) a course entry of the export contributes, if it is kept -/
def courseEntry (trackId : Nat) (o : Opts) (kv : String × J) : Option (String × Course) :=
  match parseNat kv.1, parseCourseBase kv.2 trackId with
  | some cid, .ok (name, s, mn, mx, key) =>
    if keptStatus o s then
      match roomFields kv.2 o with
      | .ok (f, off) => some (key, mkCourse cid name mn mx f off)
      | .error _ => none
    else none
  | _, _ => none

/-- the id a course entry of the export contributes to the skipped list, if it is not kept -/
def courseSkipped (trackId : Nat) (o : Opts) (kv : String × J) : Option Nat :=
  match parseNat kv.1, parseCourseBase kv.2 trackId with
  | some cid, .ok (_, s, _, _, _) => if keptStatus o s then none else some cid
  | _, _ => none

/-- is the entry a cancelled course that is ignored (counted in `numIgnored`) -/
def courseIgnored (trackId : Nat) (o : Opts) (kv : String × J) : Bool :=
  match parseCourseBase kv.2 trackId with
  | .ok (_, s, _, _, _) => s == .cancelled && o.ignoreCancelled
  | .error _ => false

/-- the entry parses as far as the reader looks at it -/
def CourseParses (trackId : Nat) (o : Opts) (kv : String × J) : Prop :=
  ∃ cid name s mn mx key, parseNat kv.1 = some cid ∧
    parseCourseBase kv.2 trackId = .ok (name, s, mn, mx, key) ∧
    (keptStatus o s = true → ∃ fo, roomFields kv.2 o = .ok fo)

instance : LawfulBEq CStatus where
  eq_of_beq := by intro a b h; cases a <;> cases b <;> first | rfl | cases h
  rfl := by intro a; cases a <;> rfl

theorem courseEntry_spec {trackId : Nat} {o : Opts} {kv : String × J} {e : String × Course}
    (h : courseEntry trackId o kv = some e) :
    ∃ cid nr sn s f off, parseNat kv.1 = some cid ∧
      (kv.2.get "nr").bind J.asStr = some nr ∧ (kv.2.get "shortname").bind J.asStr = some sn ∧
      statusOfSeg (segView kv.2 trackId) = some s ∧ keptStatus o s = true ∧
      roomFields kv.2 o = .ok (f, off) ∧
      e = (sortKey nr, mkCourse cid (nr ++ ". " ++ sn)
            (((kv.2.get "min_size").bind J.asU64).getD Const.DEFAULT_MIN_SIZE)
            (((kv.2.get "max_size").bind J.asU64).getD Const.DEFAULT_MAX_SIZE) f off) ∧
      e.2.numMin ≤ e.2.numMax := by
  unfold courseEntry at h
  split at h
  · rename_i cid name s mn mx key hk hp
    obtain ⟨nr, sn, a, b, c, d, e1, f1, g, hst⟩ := parseCourseBase_ok hp
    split at h
    · rename_i hkept
      split at h
      · rename_i f off hr
        simp only [Option.some.injEq] at h
        subst h
        refine ⟨cid, nr, sn, s, f, off, hk, a, b, hst, hkept, hr, ?_, ?_⟩
        · rw [c, d, e1, f1]
        · exact g
      · cases h
    · cases h
  · cases h

theorem courseSkipped_spec {trackId : Nat} {o : Opts} {kv : String × J} {id : Nat}
    (h : courseSkipped trackId o kv = some id) :
    parseNat kv.1 = some id ∧
      ∃ s, statusOfSeg (segView kv.2 trackId) = some s ∧ keptStatus o s = false := by
  unfold courseSkipped at h
  split at h
  · rename_i cid name s mn mx key hk hp
    obtain ⟨nr, sn, a, b, c, d, e1, f1, g, hst⟩ := parseCourseBase_ok hp
    split at h
    · cases h
    · rename_i hkept
      simp only [Option.some.injEq] at h
      subst h
      exact ⟨hk, s, hst, by simpa using hkept⟩
  · cases h

theorem courseEntry_dbid {trackId : Nat} {o : Opts} {kv : String × J} {e : String × Course}
    (h : courseEntry trackId o kv = some e) : parseNat kv.1 = some e.2.dbid := by
  obtain ⟨cid, _, _, _, _, _, hk, _, _, _, _, _, heq, _⟩ := courseEntry_spec h
  rw [heq]
  exact hk

theorem courseParses_split {trackId : Nat} {o : Opts} {kv : String × J}
    (h : CourseParses trackId o kv) :
    ∃ cid, parseNat kv.1 = some cid ∧
      ((∃ e, courseEntry trackId o kv = some e ∧ e.2.dbid = cid) ∨ courseSkipped trackId o kv = some cid) := by
  obtain ⟨cid, name, s, mn, mx, key, hk, hp, hr⟩ := h
  refine ⟨cid, hk, ?_⟩
  unfold courseEntry courseSkipped
  rw [hk, hp]
  cases hs : keptStatus o s with
  | true =>
    obtain ⟨⟨f, off⟩, hf⟩ := hr hs
    left
    simp only [hs, hf, if_true]
    exact ⟨_, rfl, rfl⟩
  | false =>
    right
    simp [hs]

theorem courseStep_ok {trackId : Nat} {o : Opts} {st st' : List (String × Course) × List Nat × Nat}
    {kv : String × J} (h : courseStep trackId o st kv = .ok st') :
    CourseParses trackId o kv ∧
    st'.1 = st.1 ++ (courseEntry trackId o kv).toList ∧
    st'.2.1 = st.2.1 ++ (courseSkipped trackId o kv).toList ∧
    st'.2.2 = st.2.2 + (if courseIgnored trackId o kv then 1 else 0) := by
  unfold courseStep at h
  unfold CourseParses courseEntry courseSkipped courseIgnored
  split at h
  · cases h
  rename_i cid hk
  split at h
  · cases h
  rename_i name s mn mx key hp
  rw [hk, hp]
  split at h
  · -- kept: the room fields parse and the course is appended
    rename_i hkept
    split at h
    · cases h
    rename_i f off hr
    cases h
    -- a kept course is not an ignored cancelled one
    have hign : (s == CStatus.cancelled && o.ignoreCancelled) = false := by
      cases s <;> cases hic : o.ignoreCancelled <;> simp [keptStatus, hic] at hkept ⊢
    exact ⟨⟨cid, name, s, mn, mx, key, rfl, rfl, fun _ => ⟨_, hr⟩⟩, by simp [hkept, hr], by simp [hkept],
      by simp [hign]⟩
  · -- skipped, and counted when it is a cancelled course that is ignored
    rename_i hkept
    cases h
    exact ⟨⟨cid, name, s, mn, mx, key, rfl, rfl, fun hc => absurd hc hkept⟩, by simp [hkept],
      by simp [hkept], rfl⟩

/-- the comparison the reader sorts the kept courses with -/
def keyLe (a b : String × Course) : Bool := decide (a.1 ≤ b.1)

theorem keyLe_trans (a b c : String × Course) : keyLe a b = true → keyLe b c = true → keyLe a c = true := by
  simp only [keyLe, decide_eq_true_eq]
  exact String.le_trans

theorem keyLe_total (a b : String × Course) : (keyLe a b || keyLe b a) = true := by
  simp only [keyLe, Bool.or_eq_true, decide_eq_true_eq]
  exact String.le_total a.1 b.1

theorem readCourses_spec {cdata : List (String × J)} {trackId : Nat} {o : Opts} {co : CoursesOut}
    (h : readCourses cdata trackId o = .ok co) :
    (∀ kv ∈ cdata, CourseParses trackId o kv) ∧
    co.courses = ((cdata.filterMap (courseEntry trackId o)).mergeSort keyLe).map (·.2) ∧
    co.skipped = cdata.filterMap (courseSkipped trackId o) ∧
    co.numIgnored = cdata.countP (courseIgnored trackId o) := by
  unfold readCourses at h
  split at h
  · cases h
  rename_i acc sk n hg
  cases h
  rw [readCourses_go_eq] at hg
  have := foldlM_ok (R := fun done st => (∀ kv ∈ done, CourseParses trackId o kv) ∧
    st.1 = done.filterMap (courseEntry trackId o) ∧ st.2.1 = done.filterMap (courseSkipped trackId o) ∧
    st.2.2 = done.countP (courseIgnored trackId o)) (done := []) ?_
    ⟨fun _ h => (by cases h), rfl, rfl, rfl⟩ hg
  · rw [List.nil_append] at this
    obtain ⟨p, e1, e2, e3⟩ := this
    exact ⟨p, by rw [← e1]; rfl, e2, e3⟩
  · intro done kv st st1 ⟨p, f1, f2, f3⟩ hs
    obtain ⟨q, e1, e2, e3⟩ := courseStep_ok hs
    refine ⟨List.forall_mem_append.2 ⟨p, List.forall_mem_singleton.2 q⟩, ?_, ?_, ?_⟩
    · rw [e1, f1, List.filterMap_append, List.filterMap_cons]
      cases courseEntry trackId o kv <;> rfl
    · rw [e2, f2, List.filterMap_append, List.filterMap_cons]
      cases courseSkipped trackId o kv <;> rfl
    · rw [e3, f3, List.countP_append, List.countP_singleton]

theorem readCourses_sorted {cdata : List (String × J)} {trackId : Nat} {o : Opts} {co : CoursesOut}
    (h : readCourses cdata trackId o = .ok co) :
    ∃ S : List (String × Course), co.courses = S.map (·.2) ∧
      S.Perm (cdata.filterMap (courseEntry trackId o)) ∧
      S.Pairwise (fun a b => a.1 ≤ b.1) ∧
      (∀ a b, a.1 ≤ b.1 → [a, b].Sublist (cdata.filterMap (courseEntry trackId o)) → [a, b].Sublist S) := by
  obtain ⟨_, e1, _, _⟩ := readCourses_spec h
  refine ⟨_, e1, List.mergeSort_perm _ _, ?_, ?_⟩
  · have := List.pairwise_mergeSort keyLe_trans keyLe_total (cdata.filterMap (courseEntry trackId o))
    exact this.imp (fun h => by simpa [keyLe] using h)
  · intro a b hab hsub
    exact List.pair_sublist_mergeSort keyLe_trans keyLe_total (by simpa [keyLe] using hab) hsub

theorem readCourses_perm {cdata : List (String × J)} {trackId : Nat} {o : Opts} {co : CoursesOut}
    (h : readCourses cdata trackId o = .ok co) :
    co.courses.Perm ((cdata.filterMap (courseEntry trackId o)).map (·.2)) := by
  obtain ⟨_, e, _, _⟩ := readCourses_spec h
  rw [e]; exact (List.mergeSort_perm _ _).map _

theorem mem_courses_of_readCourses {cdata : List (String × J)} {trackId : Nat} {o : Opts}
    {co : CoursesOut} (h : readCourses cdata trackId o = .ok co) {c0 : Course} (hc : c0 ∈ co.courses) :
    ∃ ckv ∈ cdata, ∃ e, courseEntry trackId o ckv = some e ∧ e.2 = c0 := by
  rw [(readCourses_perm h).mem_iff] at hc
  simp only [List.mem_map, List.mem_filterMap] at hc
  obtain ⟨e, ⟨ckv, hckv, he⟩, rfl⟩ := hc
  exact ⟨ckv, hckv, e, he, rfl⟩

theorem mem_skipped_of_readCourses {cdata : List (String × J)} {trackId : Nat} {o : Opts}
    {co : CoursesOut} (h : readCourses cdata trackId o = .ok co) {id : Nat} (hs : id ∈ co.skipped) :
    ∃ ckv ∈ cdata, courseSkipped trackId o ckv = some id := by
  obtain ⟨_, _, e2, _⟩ := readCourses_spec h
  rwa [e2, List.mem_filterMap] at hs

def courseIds (cdata : List (String × J)) : List Nat := cdata.filterMap (fun kv => parseNat kv.1)

theorem courseIndex_known {cdata : List (String × J)} {trackId : Nat} {o : Opts} {co : CoursesOut}
    (h : readCourses cdata trackId o = .ok co) (id : Nat) :
    courseIndex co id ≠ none ↔ id ∈ cdata.filterMap (fun kv => parseNat kv.1) := by
  obtain ⟨hp, _, e2, _⟩ := readCourses_spec h
  have hperm := readCourses_perm h
  rw [courseIndex_ne_none_iff, e2]
  simp only [List.mem_filterMap, hperm.mem_iff, List.mem_map]
  constructor
  · rintro (⟨kv, hkv, hs⟩ | ⟨c, ⟨e, ⟨kv, hkv, he⟩, rfl⟩, rfl⟩)
    · exact ⟨kv, hkv, (courseSkipped_spec hs).1⟩
    · exact ⟨kv, hkv, courseEntry_dbid he⟩
  · rintro ⟨kv, hkv, hid⟩
    obtain ⟨cid, hc, hsplit⟩ := courseParses_split (hp kv hkv)
    rw [hc] at hid
    simp only [Option.some.injEq] at hid
    subst hid
    rcases hsplit with ⟨e, he, hd⟩ | hs
    · right; exact ⟨e.2, ⟨e, ⟨kv, hkv, he⟩, rfl⟩, hd⟩
    · left; exact ⟨kv, hkv, hs⟩

section Example
private def exCourses : List (String × J) :=
  [("7", .obj [("segments", .obj [("3", .bool true)]), ("nr", .str "10"), ("shortname", .str "x"),
               ("fields", .obj []), ("max_size", .num (.pos 9))]),
   ("8", .obj [("segments", .obj [("4", .bool true)]), ("nr", .str "1"), ("shortname", .str "y")]),
   ("9", .obj [("segments", .obj [("3", .bool false)]), ("nr", .str "2"), ("shortname", .str "z"),
               ("fields", .obj []), ("min_size", .num (.pos 3))])]
private def exOpts : Opts :=
  { track := some 3, ignoreCancelled := false, ignoreAssigned := false, factorField := none, offsetField := none }
/-- non-trivial instance of the hypothesis `readCourses … = .ok co`: courses 7 and 9 (cancelled, kept)
    are kept, course 8 (other track) is skipped. (`#eval` gives the order 9 " 2", 7 "10"; `mergeSort`
    is defined by well-founded recursion, so `decide` cannot replay the sort itself.) -/
example : ∃ co, readCourses exCourses 3 exOpts = .ok co ∧ co.skipped = [8] ∧ co.courses.length = 2 := by
  have h : (readCourses.go 3 exOpts [] [] 0 exCourses).toOption.map
      (fun r => (r.1.map (fun e => (e.2.dbid, e.2.name, e.2.numMin, e.2.numMax)), r.2)) =
      some ([(7, "10. x", 0, 9), (9, "2. z", 3, 25)], [8], 0) := by decide +kernel
  cases hg : readCourses.go 3 exOpts [] [] 0 exCourses with
  | error e => rw [hg] at h; cases h
  | ok r =>
    obtain ⟨acc, sk, n⟩ := r
    rw [hg] at h
    simp only [Except.toOption, Option.map_some, Option.some.injEq, Prod.mk.injEq] at h
    obtain ⟨h1, h2, _⟩ := h
    refine ⟨_, by unfold readCourses; rw [hg], h2, ?_⟩
    have := congrArg List.length h1
    simpa using this
end Example

theorem readCourses_fresh {cdata : List (String × J)} {trackId : Nat} {o : Opts} {co : CoursesOut}
    (h : readCourses cdata trackId o = .ok co) :
    ∀ c ∈ co.courses, c.instructors = [] ∧ c.hidden = [] ∧ c.invInstr = 0 ∧ c.invAtt = 0 ∧
      c.fixed = false ∧ c.numMin ≤ c.numMax := by
  intro c hc
  obtain ⟨kv, _, e, he, rfl⟩ := mem_courses_of_readCourses h hc
  obtain ⟨cid, nr, sn, s, f, off, _, _, _, _, _, _, rfl, hle⟩ := courseEntry_spec he
  exact ⟨rfl, rfl, rfl, rfl, rfl, hle⟩

/-- what `participantBase` reads of `parts`: is there a `parts` object, in it an object for the
    selected part, in that a `status` member -/
def statusView (reg : J) (partId : Nat) : Option (Option (Option J)) :=
  ((reg.get "parts").bind J.asObject).map fun parts =>
    ((J.lookup (toString partId) parts).bind J.asObject).map fun part => J.lookup "status" part

/-- what `participantBase` reads of `persona`: the two name members -/
def personaView (reg : J) : Option (Option J × Option J) :=
  ((reg.get "persona").bind J.asObject).map fun p =>
    (J.lookup "given_names" p, J.lookup "family_name" p)

def participantBaseV (sv : Option (Option (Option J))) (pv : Option (Option J × Option J)) :
    M (Bool × String) :=
  match sv with
  | none => .error "No 'parts' found in registration"
  | some rp =>
    let st : M Bool :=
      match rp with
      | some status =>
        match status.bind J.asI64 with
        | none => .error "Missing 'status' in registration_part record"
        | some s => .ok (s == Int.ofNat Const.STATUS_PARTICIPANT)
      | none => .ok false
    match st with
    | .error e => .error e
    | .ok isP =>
      match pv with
      | none => .error "Missing 'persona' in registration"
      | some (g, f) =>
        match g.bind J.asStr with
        | none => .error "No 'given_name' found for registration"
        | some gn =>
          match f.bind J.asStr with
          | none => .error "No 'family_name' found for registration"
          | some fnm => .ok (isP, gn ++ " " ++ fnm)

theorem participantBase_eq_view (reg : J) (partId : Nat) :
    participantBase reg partId = participantBaseV (statusView reg partId) (personaView reg) := by
  unfold participantBase statusView personaView participantBaseV
  generalize toString partId = key
  cases (reg.get "parts").bind J.asObject with
  | none => rfl
  | some parts =>
    dsimp only [Option.map_some]
    cases (J.lookup key parts).bind J.asObject with
    | none =>
      dsimp only [Option.map_none]
      cases (reg.get "persona").bind J.asObject <;> rfl
    | some part =>
      dsimp only [Option.map_some]
      cases (J.lookup "status" part).bind J.asI64 with
      | none => rfl
      | some s =>
        dsimp only
        cases (reg.get "persona").bind J.asObject <;> rfl

/-- the entry a choice id at position `i` contributes: `(course index, i)` when the id is a kept course -/
def choiceEntry (co : CoursesOut) (p : Nat × Nat) : Option (Nat × Nat) :=
  match courseIndex co p.1 with
  | some (some c) => some (c, p.2)
  | _ => none

def choicesArr (reg : J) (trackId : Nat) : Option (List J) :=
  ((reg.get "tracks").bind J.asObject).bind fun tracks =>
    ((J.lookup (toString trackId) tracks).bind J.asObject).bind fun rt =>
      (J.lookup "choices" rt).bind J.asArray

theorem pcd_go_spec {co : CoursesOut} :
    ∀ {l : List J} {i : Nat} {acc r : List (Nat × Nat)},
      participantCourseData.go co i acc l = .ok r →
      ∃ ids : List Nat, l = ids.map (fun id => J.num (.pos id)) ∧
        (∀ id ∈ ids, id ≤ J.U64_MAX ∧ courseIndex co id ≠ none) ∧
        r = acc ++ (ids.zipIdx i).filterMap (choiceEntry co) := by
  intro l
  induction l with
  | nil =>
    intro i acc r h
    simp only [participantCourseData.go, Except.ok.injEq] at h
    exact ⟨[], rfl, by simp, by simp [h]⟩
  | cons v rest ih =>
    intro i acc r h
    unfold participantCourseData.go at h
    cases hv : v.asU64 with
    | none => simp [hv] at h
    | some id =>
      obtain ⟨rfl, hid⟩ := asU64_eq_some hv
      simp only [hv] at h
      cases hc : courseIndex co id with
      | none => simp [hc] at h
      | some oc =>
        -- a kept course appends its entry, a skipped one nothing: `choiceEntry` in both cases
        have h' : participantCourseData.go co (i + 1) (acc ++ (choiceEntry co (id, i)).toList) rest = .ok r := by
          cases oc <;> simpa [hc, choiceEntry] using h
        obtain ⟨ids, h1, h2, h3⟩ := ih h'
        refine ⟨id :: ids, by simp [h1], ?_, ?_⟩
        · intro x hx
          rcases List.mem_cons.1 hx with rfl | hx
          · exact ⟨hid, by simp [hc]⟩
          · exact h2 x hx
        · rw [h3, List.zipIdx_cons, List.filterMap_cons]
          cases choiceEntry co (id, i) <;> simp

theorem choicesArr_eq_view (reg : J) (trackId : Nat) :
    choicesArr reg trackId =
      match trackView reg trackId with
      | some (some (_, _, chs)) => chs.bind J.asArray
      | _ => none := by
  unfold choicesArr trackView
  cases (reg.get "tracks").bind J.asObject with
  | none => rfl
  | some tracks =>
    dsimp only [Option.bind_some, Option.map_some]
    cases (J.lookup (toString trackId) tracks).bind J.asObject <;> rfl

theorem pcd_choices {reg : J} {trackId : Nat} {co : CoursesOut} {pc : PCData}
    (h : participantCourseData reg trackId co = .ok pc) :
    ∃ ids : List Nat, choicesArr reg trackId = some (ids.map (fun id => J.num (.pos id))) ∧
      (∀ id ∈ ids, id ≤ J.U64_MAX ∧ courseIndex co id ≠ none) ∧
      pc.choices = ids.zipIdx.filterMap (choiceEntry co) := by
  obtain ⟨cid, cin, chs, arr, h1, -, -, h4, hgo⟩ := participantCourseData_ok_iff.1 h
  obtain ⟨ids, e1, e2, e3⟩ := pcd_go_spec hgo
  refine ⟨ids, ?_, e2, by simpa using e3⟩
  rw [choicesArr_eq_view, h1, ← e1]
  exact h4

theorem choiceEntry_eq_some {co : CoursesOut} {p q : Nat × Nat} :
    choiceEntry co p = some q ↔ courseIndex co p.1 = some (some q.1) ∧ q.2 = p.2 := by
  unfold choiceEntry
  split
  · rename_i c hc
    rw [hc]
    simp only [Option.some.injEq, Prod.ext_iff]
    exact ⟨fun ⟨a, b⟩ => ⟨a, b.symm⟩, fun ⟨a, b⟩ => ⟨a, b.symm⟩⟩
  · rename_i hn
    exact ⟨nofun, fun ⟨h, _⟩ => absurd h (hn _)⟩

theorem mem_choiceEntries {co : CoursesOut} {ids : List Nat} {c i : Nat} :
    (c, i) ∈ ids.zipIdx.filterMap (choiceEntry co) ↔
      ∃ id, ids[i]? = some id ∧ courseIndex co id = some (some c) := by
  simp only [List.mem_filterMap, Prod.exists, List.mem_zipIdx_iff_getElem?, choiceEntry_eq_some]
  exact ⟨fun ⟨id, j, hj, hc, e⟩ => ⟨id, e ▸ hj, hc⟩, fun ⟨id, hj, hc⟩ => ⟨id, i, hj, hc, rfl⟩⟩

theorem choiceEntries_pairwise (co : CoursesOut) (ids : List Nat) (k : Nat) :
    ((ids.zipIdx k).filterMap (choiceEntry co)).Pairwise (fun a b => a.2 < b.2) := by
  refine (RD.zipIdx_sorted ids k).filterMap _ fun a a' haa b hb b' hb' => ?_
  rw [(choiceEntry_eq_some.1 hb).2, (choiceEntry_eq_some.1 hb').2]
  exact haa

theorem pcd_choices_mem {reg : J} {trackId : Nat} {co : CoursesOut} {pc : PCData}
    (h : participantCourseData reg trackId co = .ok pc) :
    ∃ ids : List Nat, choicesArr reg trackId = some (ids.map (fun id => J.num (.pos id))) ∧
      (∀ c i, (c, i) ∈ pc.choices ↔ ∃ id, ids[i]? = some id ∧ courseIndex co id = some (some c)) ∧
      pc.choices.Pairwise (fun a b => a.2 < b.2) := by
  obtain ⟨ids, h1, _, h3⟩ := pcd_choices h
  refine ⟨ids, h1, ?_, ?_⟩
  · intro c i; rw [h3]; exact mem_choiceEntries
  · rw [h3]; exact choiceEntries_pairwise co ids 0

section Example
private def exCo : CoursesOut :=
  { courses := [{ dbid := 7, name := "a", numMin := 0, numMax := 5, instructors := [], factor := .dflt,
                  offset := .dflt, fixed := false, hidden := [] },
                { dbid := 9, name := "b", numMin := 0, numMax := 5, instructors := [], factor := .dflt,
                  offset := .dflt, fixed := false, hidden := [] }],
    skipped := [8], numIgnored := 0 }
private def exReg : J :=
  .obj [("tracks", .obj [("3", .obj [("choices", .arr [.num (.pos 9), .num (.pos 8), .num (.pos 7)]),
          ("course_id", .null), ("course_instructor", .num (.pos 7))])])]
/-- non-trivial instance: the skipped course 8 leaves a gap, the penalties stay 0 and 2 -/
example : (participantCourseData exReg 3 exCo).toOption.map (·.choices) = some [(1, 0), (0, 2)] := by
  decide +kernel
end Example

/-- participant indices pushed for course `ci` -/
def instrOf (l : List (Nat × Nat)) (ci : Nat) : List Nat :=
  l.filterMap (fun p => if p.1 = ci then some p.2 else none)

theorem instrOf_append (l l' : List (Nat × Nat)) (ci : Nat) :
    instrOf (l ++ l') ci = instrOf l ci ++ instrOf l' ci := by
  simp [instrOf, List.filterMap_append]

theorem instrOf_map_toList (x : Option Nat) (k ci : Nat) :
    instrOf (x.map (·, k)).toList ci = if x = some ci then [k] else [] := by
  cases x with
  | none => rfl
  | some c => by_cases h : c = ci <;> simp [instrOf, h]

theorem mem_instrOf (l : List (Nat × Nat)) (ci k : Nat) : k ∈ instrOf l ci ↔ (ci, k) ∈ l := by
  simp only [instrOf, List.mem_filterMap, Prod.exists, Option.ite_none_right_eq_some, Option.some.injEq]
  exact ⟨fun ⟨_, _, hab, hc, hk⟩ => hc ▸ hk ▸ hab, fun h => ⟨ci, k, h, rfl, rfl⟩⟩

/-- the members of a course the registration loop never touches -/
def courseCore (c : Course) : Nat × String × Nat × Nat × FVal × FVal × Bool :=
  (c.dbid, c.name, c.numMin, c.numMax, c.factor, c.offset, c.fixed)

theorem updCourse_getElem? (cs : List Course) (i : Nat) (f : Course → Course) (j : Nat) :
    (updCourse cs i f)[j]? = (cs[j]?).map (fun c => if i = j then f c else c) :=
  List.getElem?_modify f i cs j

theorem map_map_comm {α β : Type} {f : α → α} {g : α → β} {u : β → β} (h : ∀ a, g (f a) = u (g a))
    (x : Option α) : (x.map f).map g = (x.map g).map u := by
  cases x with
  | none => rfl
  | some a => exact congrArg some (h a)

/-- simulation relation between the JSON-level loop state and the typed loop state; `c0` are the
    courses the loop started with -/
structure Sim (c0 : List Course) (s : RState) (t : RD.St) : Prop where
  idx : s.i = t.i
  parts : s.parts.map (fun p => (p.dbid, p.choices)) = t.parts.map (fun p => (p.dbid, p.choices))
  instr : ∀ ci, (s.courses[ci]?).map (·.instructors) =
                (c0[ci]?).map (fun c => c.instructors ++ instrOf t.instr ci)
  frame : s.courses.map courseCore = c0.map courseCore

theorem Sim.instructors {c0 : List Course} {s : RState} {t : RD.St} (h : Sim c0 s t) {ci : Nat}
    {c : Course} (hc : s.courses[ci]? = some c) :
    ∃ c', c0[ci]? = some c' ∧ c.instructors = c'.instructors ++ instrOf t.instr ci := by
  have hi := h.instr ci
  rw [hc] at hi
  obtain ⟨c', h0, e⟩ := Option.map_eq_some_iff.1 hi.symm
  exact ⟨c', h0, e.symm⟩

/-- the condition under which the loop ignores a participant, as the typed loop writes it -/
theorem ignored_of_ite_none {ia : Bool} {a : Option Nat} (h : (if ia then a else none) = none) :
    (ia && a.isSome) = false := by
  cases ia with
  | false => rfl
  | true => rw [if_pos rfl] at h; rw [h]; rfl

theorem of_ite_some {ia : Bool} {a : Option Nat} {c : Nat} (h : (if ia then a else none) = some c) :
    ia = true ∧ a = some c := by
  cases ia with
  | false => cases h
  | true => exact ⟨rfl, by rwa [if_pos rfl] at h⟩

def regName (partId : Nat) (kv : String × J) : String :=
  match participantBase kv.2 partId with
  | .ok (_, n) => n
  | .error _ => ""

/-- the participant a kept registration entry becomes -/
def partOf (partId trackId : Nat) (co : CoursesOut) (kv : String × J) : Part :=
  { dbid := (toReg partId trackId co kv).id, name := regName partId kv,
    choices := (toReg partId trackId co kv).choices }

/-- the typed view is ignored by the loop: a participant already assigned to a kept course, with
    `ignoreAssigned` -/
def isIgnored (ia : Bool) (r : RD.Reg) : Bool := r.isParticipant && RD.ignored ia r

/-- does the ignored registration count as invisible instructor (`asInstr = true`) / attendee
    (`asInstr = false`) of course `ci` -/
def invisibleIn (ia : Bool) (ci : Nat) (asInstr : Bool) (r : RD.Reg) : Bool :=
  isIgnored ia r && decide (r.assigned = some ci) && (decide (r.instructed = some ci) == asInstr)

def invOf (c : Course) : Nat × Nat := (c.invInstr, c.invAtt)

theorem isIgnored_mk (ia : Bool) (rid : Nat) (a ins : Option Nat) (chs : List (Nat × Nat)) :
    isIgnored ia ⟨rid, true, a, ins, chs⟩ = (if ia then a else none).isSome := by
  cases ia <;> cases a <;> rfl

/-- what one iteration of the registration loop does to the loop state `s`, in terms of the typed view
    `r` of the entry and the participant `p` it becomes when kept: counter and participants grow iff `r`
    is kept, `numIgnored` iff it is ignored; the course at each index `ci` keeps its `courseCore`, gets
    the new participant's index iff that one instructs `ci`, and counts `r` if it is invisible there -/
structure RegEffect (ia : Bool) (r : RD.Reg) (p : Part) (s s1 : RState) : Prop where
  idx : s1.i = s.i + (if RD.keep ia r then 1 else 0)
  parts : s1.parts = s.parts ++ (if RD.keep ia r then [p] else [])
  numIgnored : s1.numIgnored = s.numIgnored + (if isIgnored ia r then 1 else 0)
  course : ∀ ci, ∃ f : Course → Course, s1.courses[ci]? = (s.courses[ci]?).map f ∧ ∀ c,
    courseCore (f c) = courseCore c ∧
    (f c).instructors = c.instructors ++ (if RD.keep ia r = true ∧ r.instructed = some ci then [s.i] else []) ∧
    invOf (f c) = ((invOf c).1 + (if invisibleIn ia ci true r then 1 else 0),
                   (invOf c).2 + (if invisibleIn ia ci false r then 1 else 0))

theorem RegEffect.drop {ia : Bool} {r : RD.Reg} {p : Part} {s : RState} (hk : RD.keep ia r = false)
    (hi : isIgnored ia r = false) : RegEffect ia r p s s := by
  refine ⟨by simp [hk], by simp [hk], by simp [hi], fun ci => ⟨id, Option.map_id'.symm, fun c => ?_⟩⟩
  simp [hk, hi, invisibleIn, invOf]

theorem regStep_effect {partId trackId : Nat} {td : List (String × J)} {co : CoursesOut} {o : Opts}
    {s s1 : RState} {kv : String × J} (h : regStep partId trackId td co o s kv = .ok s1) :
    RegEffect o.ignoreAssigned (toReg partId trackId co kv) (partOf partId trackId co kv) s s1 := by
  obtain ⟨rid, isP, name, -, hb, ⟨-, ht, rfl⟩ | ⟨-, pc, -, ht, rfl⟩⟩ := regStep_ok h
  · rw [ht]; exact .drop rfl rfl
  · have hpo : partOf partId trackId co kv = ⟨rid, name, pc.choices⟩ := by
      unfold partOf regName; rw [ht, hb]
    rw [ht, hpo]
    cases hx : (if o.ignoreAssigned then pc.assigned else none) with
    | none =>
      have hig : isIgnored o.ignoreAssigned ⟨rid, true, pc.assigned, pc.instructed, pc.choices⟩ = false := by
        rw [isIgnored_mk, hx]; rfl
      cases he : (pc.choices.isEmpty && pc.instructed.isNone) with
      | true =>
        have e : regApply td o s rid name pc = s := by unfold regApply; simp only [hx, he, if_true]
        rw [e]
        exact .drop (by simp [RD.keep, he]) hig
      | false =>
        -- kept: the next participant; the course it instructs, if any, gets its index
        have hk : RD.keep o.ignoreAssigned ⟨rid, true, pc.assigned, pc.instructed, pc.choices⟩ = true := by
          simp only [RD.keep, RD.ignored, ignored_of_ite_none hx, he]; rfl
        unfold regApply
        simp only [hx, he, Bool.false_eq_true, if_false]
        refine ⟨by simp [hk], by simp [hk], by simp [hig], fun ci => ?_⟩
        simp only [hk, hig, invisibleIn, Bool.false_and, Bool.false_eq_true, if_false, Nat.add_zero, true_and]
        cases pc.instructed with
        | none => exact ⟨id, Option.map_id'.symm, fun c => ⟨rfl, by simp, rfl⟩⟩
        | some cj =>
          refine ⟨_, updCourse_getElem? _ cj _ ci, fun c => ?_⟩
          by_cases hc : cj = ci <;> simp [hc, courseCore, invOf]
    | some ca =>
      -- ignored: course `ca` counts one more invisible instructor or attendee (and hides the name)
      obtain ⟨hia, ha⟩ := of_ite_some hx
      rw [hia, ha]
      unfold regApply
      cases hin : (pc.instructed == some ca) <;>
      · simp only [hx, hin, Bool.false_eq_true, if_false, if_true]
        refine ⟨rfl, (List.append_nil _).symm, rfl, fun ci =>
          ⟨_, by rw [updCourse_getElem?, updCourse_getElem?, Option.map_map], fun c => ?_⟩⟩
        simp only [beq_iff_eq, beq_eq_false_iff_ne] at hin
        by_cases hc : ca = ci
        · subst hc; simp [RD.keep, RD.ignored, invisibleIn, isIgnored, hin, courseCore, invOf]
        · simp [hc, RD.keep, RD.ignored, invisibleIn, courseCore, invOf]

theorem sim_step {partId trackId : Nat} {td : List (String × J)} {co : CoursesOut} {o : Opts}
    {c0 : List Course} {s s1 : RState} {t : RD.St} {kv : String × J}
    (hs : Sim c0 s t) (h : regStep partId trackId td co o s kv = .ok s1) :
    Sim c0 s1 (RD.step o.ignoreAssigned t (toReg partId trackId co kv)) := by
  have e := regStep_effect h
  obtain ⟨ti, tp, tn⟩ := RD.step_eq o.ignoreAssigned t (toReg partId trackId co kv)
  refine ⟨by rw [e.idx, ti, hs.idx], ?_, fun ci => ?_, ?_⟩
  · rw [e.parts, tp, List.map_append, List.map_append, hs.parts]
    split <;> rfl
  · obtain ⟨f, hf, hfc⟩ := e.course ci
    rw [hf, map_map_comm (u := (· ++ _)) fun c => (hfc c).2.1, hs.instr ci, Option.map_map, tn,
      instrOf_append, hs.idx]
    -- the typed loop pushes `(ci, t.i)` exactly when the kept entry instructs `ci`
    refine congrArg (Option.map · _) (funext fun c => (List.append_assoc ..).trans (congrArg _ ?_))
    cases RD.keep o.ignoreAssigned (toReg partId trackId co kv) with
    | false => rfl
    | true => rw [if_pos rfl, instrOf_map_toList]; simp only [true_and]
  · refine Eq.trans (List.ext_getElem? fun ci => ?_) hs.frame
    obtain ⟨f, hf, hfc⟩ := e.course ci
    rw [List.getElem?_map, List.getElem?_map, hf, map_map_comm (u := id) fun c => (hfc c).1, Option.map_id]
    rfl

theorem readRegs_refines {rdata : List (String × J)} {partId trackId : Nat} {td : List (String × J)}
    {co : CoursesOut} {o : Opts} {s : RState}
    (h : readRegs rdata partId trackId td co o = .ok s) :
    Sim co.courses s (RD.read o.ignoreAssigned (rdata.map (toReg partId trackId co))) := by
  unfold RD.read
  refine readRegs_ind h ⟨rfl, rfl, by intro ci; cases co.courses[ci]? <;> simp [instrOf], rfl⟩ ?_
  intro done kv s s1 ih h1
  rw [List.map_append, List.foldl_append]
  exact sim_step ih h1

theorem readRegs_parts {rdata : List (String × J)} {partId trackId : Nat} {td : List (String × J)}
    {co : CoursesOut} {o : Opts} {s : RState}
    (h : readRegs rdata partId trackId td co o = .ok s) :
    s.parts = (rdata.filter (fun kv => RD.keep o.ignoreAssigned (toReg partId trackId co kv))).map
      (partOf partId trackId co) := by
  refine readRegs_ind h rfl ?_
  intro done kv s s1 ih h1
  rw [(regStep_effect h1).parts, ih, List.filter_append, List.map_append, List.filter_cons]
  congr 1
  split <;> rfl

theorem readRegs_spec {rdata : List (String × J)} {partId trackId : Nat} {td : List (String × J)}
    {co : CoursesOut} {o : Opts} {s : RState}
    (h : readRegs rdata partId trackId td co o = .ok s) :
    let K := RD.kept o.ignoreAssigned (rdata.map (toReg partId trackId co))
    s.i = K.length ∧
    s.parts.map (fun p => (p.dbid, p.choices)) = K.map (fun r => (r.id, r.choices)) ∧
    s.courses.map courseCore = co.courses.map courseCore ∧
    ∀ (ci : Nat) (c : Course), s.courses[ci]? = some c →
      ∃ (c0 : Course) (pushed : List Nat), co.courses[ci]? = some c0 ∧
        c.instructors = c0.instructors ++ pushed ∧
        ∀ k, k ∈ pushed ↔ ∃ r : RD.Reg, K[k]? = some r ∧ r.instructed = some ci := by
  intro K
  have hsim := readRegs_refines h
  have hinv := RD.read_spec o.ignoreAssigned (rdata.map (toReg partId trackId co))
  refine ⟨hsim.idx.trans hinv.idx, ?_, hsim.frame, ?_⟩
  · rw [readRegs_parts h]
    simp only [K, RD.kept, List.filter_map, List.map_map]
    rfl
  · intro ci c hc
    obtain ⟨c0, h0, hi⟩ := hsim.instructors hc
    exact ⟨c0, _, h0, hi, fun k => (mem_instrOf _ ci k).trans (hinv.instr ci k)⟩

theorem readRegs_invisible {rdata : List (String × J)} {partId trackId : Nat} {td : List (String × J)}
    {co : CoursesOut} {o : Opts} {s : RState}
    (h : readRegs rdata partId trackId td co o = .ok s) :
    let regs := rdata.map (toReg partId trackId co)
    (∀ ci, (s.courses[ci]?).map invOf = (co.courses[ci]?).map (fun c =>
        ((invOf c).1 + regs.countP (invisibleIn o.ignoreAssigned ci true),
         (invOf c).2 + regs.countP (invisibleIn o.ignoreAssigned ci false)))) ∧
    s.numIgnored = regs.countP (isIgnored o.ignoreAssigned) := by
  refine readRegs_ind h ⟨fun ci => by cases co.courses[ci]? <;> rfl, rfl⟩ ?_
  intro done kv s s1 ⟨ih1, ih2⟩ h1
  have e := regStep_effect h1
  simp only [List.map_append, List.map_cons, List.map_nil, List.countP_append, List.countP_singleton]
  refine ⟨fun ci => ?_, by rw [e.numIgnored, ih2]⟩
  obtain ⟨f, hf, hfc⟩ := e.course ci
  rw [hf, map_map_comm (u := fun p => (p.1 + _, p.2 + _)) fun c => (hfc c).2.2, ih1 ci, Option.map_map]
  exact congrArg (Option.map · _) (funext fun c => by simp only [Function.comp_apply, Nat.add_assoc])

/-- the defaults in `toReg` are never used to paper over an error -/
theorem readRegs_all_parsed {rdata : List (String × J)} {partId trackId : Nat} {td : List (String × J)}
    {co : CoursesOut} {o : Opts} {s : RState}
    (h : readRegs rdata partId trackId td co o = .ok s) :
    ∀ kv ∈ rdata, ∃ rid isP name, parseNat kv.1 = some rid ∧
      participantBase kv.2 partId = .ok (isP, name) ∧
      (isP = true → ∃ pc, participantCourseData kv.2 trackId co = .ok pc) := by
  refine readRegs_ind h (fun _ h => by cases h) ?_
  intro done kv s s1 ih h1
  refine List.forall_mem_append.2 ⟨ih, List.forall_mem_singleton.2 ?_⟩
  obtain ⟨rid, isP, name, hk, hb, hc⟩ := regStep_ok h1
  refine ⟨rid, isP, name, hk, hb, fun hp => ?_⟩
  rcases hc with ⟨hf, _⟩ | ⟨_, pc, hpc, _⟩
  · rw [hf] at hp; cases hp
  · exact ⟨pc, hpc⟩

theorem keep_toReg_iff {ia : Bool} {partId trackId : Nat} {co : CoursesOut} {kv : String × J} :
    RD.keep ia (toReg partId trackId co kv) = true ↔
      ∃ name pc, participantBase kv.2 partId = .ok (true, name) ∧
        participantCourseData kv.2 trackId co = .ok pc ∧
        ¬ (ia = true ∧ pc.assigned.isSome = true) ∧
        (pc.choices ≠ [] ∨ pc.instructed.isSome = true) := by
  unfold toReg
  cases hb : participantBase kv.2 partId with
  | error e => simp [RD.keep, regDflt]
  | ok r =>
    obtain ⟨isP, name⟩ := r
    cases isP with
    | false => simp [RD.keep, regDflt]
    | true =>
      cases hp : participantCourseData kv.2 trackId co with
      | error e => simp [RD.keep, regDflt]
      | ok pc =>
        -- the Boolean conditions of `RD.keep`, read as propositions
        simp only [RD.keep, RD.ignored, Bool.true_and, Bool.and_eq_true, Bool.not_eq_true',
          Bool.and_eq_false_iff, Except.ok.injEq, Prod.mk.injEq, true_and, exists_and_left, exists_eq_left',
          List.isEmpty_eq_false_iff, Option.isNone_eq_false_iff, ne_eq]
        cases ia <;> simp

theorem kept_entry {rdata : List (String × J)} {partId trackId : Nat} {td : List (String × J)}
    {co : CoursesOut} {o : Opts} {s : RState} (h : readRegs rdata partId trackId td co o = .ok s)
    {kv : String × J} (hin : kv ∈ rdata)
    (hk : RD.keep o.ignoreAssigned (toReg partId trackId co kv) = true) :
    ∃ rid name pc, parseNat kv.1 = some rid ∧ participantBase kv.2 partId = .ok (true, name) ∧
      participantCourseData kv.2 trackId co = .ok pc ∧
      ¬ (o.ignoreAssigned = true ∧ pc.assigned.isSome = true) ∧
      toReg partId trackId co kv = ⟨rid, true, pc.assigned, pc.instructed, pc.choices⟩ ∧
      partOf partId trackId co kv = ⟨rid, name, pc.choices⟩ := by
  obtain ⟨name, pc, hb, hpc, hign, -⟩ := keep_toReg_iff.1 hk
  obtain ⟨rid, _, _, hrid, -, -⟩ := readRegs_all_parsed h kv hin
  have htr := toReg_ok hb hpc
  rw [hrid, Option.getD_some] at htr
  refine ⟨rid, name, pc, hrid, hb, hpc, hign, htr, ?_⟩
  unfold partOf regName
  rw [htr, hb]

theorem readRegs_instructors {cdata rdata : List (String × J)} {partId trackId : Nat}
    {td : List (String × J)} {co : CoursesOut} {o : Opts} {s : RState}
    (hco : readCourses cdata trackId o = .ok co)
    (h : readRegs rdata partId trackId td co o = .ok s) {ci : Nat} {c : Course}
    (hc : s.courses[ci]? = some c) :
    c.instructors =
      instrOf (RD.read o.ignoreAssigned (rdata.map (toReg partId trackId co))).instr ci := by
  obtain ⟨c0, h0, hi⟩ := (readRegs_refines h).instructors hc
  rw [hi, (readCourses_fresh hco c0 (List.mem_of_getElem? h0)).1, List.nil_append]

theorem readRegs_mem_instructors {cdata rdata : List (String × J)} {partId trackId : Nat}
    {td : List (String × J)} {co : CoursesOut} {o : Opts} {s : RState}
    (hco : readCourses cdata trackId o = .ok co)
    (h : readRegs rdata partId trackId td co o = .ok s) {ci : Nat} {c : Course}
    (hc : s.courses[ci]? = some c) (k : Nat) :
    k ∈ c.instructors ↔
      ∃ r : RD.Reg, (RD.kept o.ignoreAssigned (rdata.map (toReg partId trackId co)))[k]? = some r ∧
        r.instructed = some ci := by
  rw [readRegs_instructors hco h hc, mem_instrOf]
  exact (RD.read_spec o.ignoreAssigned (rdata.map (toReg partId trackId co))).instr ci k

theorem read_inv {data : J} {o : Opts} {parts : List Part} {courses : List Course} {amb : Ambience}
    (h : read data o = .ok (parts, courses, amb)) :
    ∃ evparts partId trackId td cdata rdata co s,
      eventParts data = some evparts ∧ findTrack evparts o.track = .ok (partId, trackId, td) ∧
      coursesOf data = some cdata ∧ readCourses cdata trackId o = .ok co ∧
      regsOf data = some rdata ∧ readRegs rdata partId trackId td co o = .ok s ∧
      parts = s.parts ∧ courses = s.courses.map adapt ∧ amb.trackId = trackId := by
  obtain ⟨ts, ev, evparts, partId, trackId, td, cdata, co, rdata, s, eid, tn, -, -, -, h4, h5, h6, h7,
    h8, h9, h10, -, -, hr⟩ := read_ok_iff.1 h
  cases hr
  exact ⟨evparts, partId, trackId, td, cdata, rdata, co, s, eventParts_eq h4 h5, h6, h7, h8, h9, h10,
    rfl, rfl, rfl⟩

theorem read_refuse_of_findTrack (data : J) (o : Opts)
    (h : ∀ parts, eventParts data = some parts → ∃ e, findTrack parts o.track = .error e) :
    ∃ e, read data o = .error e := by
  cases hr : read data o with
  | error e => exact ⟨e, rfl⟩
  | ok r =>
    obtain ⟨evparts, _, _, _, _, _, _, _, h1, h2, -⟩ := read_inv (parts := r.1) (courses := r.2.1) hr
    obtain ⟨e, he⟩ := h evparts h1
    rw [he] at h2
    cases h2

theorem read_spec (data : J) (o : Opts) (parts : List Part) (courses : List Course) (amb : Ambience)
    (h : read data o = .ok (parts, courses, amb)) :
    ∃ evparts partId trackId td cdata rdata co,
      eventParts data = some evparts ∧ findTrack evparts o.track = .ok (partId, trackId, td) ∧
      coursesOf data = some cdata ∧ readCourses cdata trackId o = .ok co ∧
      regsOf data = some rdata ∧ amb.trackId = trackId ∧
      parts = (rdata.filter (fun kv => RD.keep o.ignoreAssigned (toReg partId trackId co kv))).map
        (partOf partId trackId co) ∧
      courses.map (fun c => (c.dbid, c.name, c.factor, c.offset)) =
        co.courses.map (fun c => (c.dbid, c.name, c.factor, c.offset)) ∧
      ∀ (ci : Nat) (c : Course), courses[ci]? = some c → ∀ k, k ∈ c.instructors ↔
        ∃ r : RD.Reg, (RD.kept o.ignoreAssigned (rdata.map (toReg partId trackId co)))[k]? = some r ∧
          r.instructed = some ci := by
  obtain ⟨evparts, partId, trackId, td, cdata, rdata, co, s, h1, h2, h3, h4, h5, h6, h7, h8, h9⟩ :=
    read_inv h
  refine ⟨evparts, partId, trackId, td, cdata, rdata, co, h1, h2, h3, h4, h5, h9, ?_, ?_, ?_⟩
  · rw [h7]; exact readRegs_parts h6
  · -- the four members are read off `courseCore`, which the loop keeps and `adapt` does not touch
    have := congrArg (List.map (fun x : Nat × String × Nat × Nat × FVal × FVal × Bool =>
      (x.1, x.2.1, x.2.2.2.2.1, x.2.2.2.2.2.1))) (readRegs_refines h6).frame
    rw [List.map_map, List.map_map] at this
    rw [h8, List.map_map]
    exact this
  · intro ci c hc k
    rw [h8, List.getElem?_map, Option.map_eq_some_iff] at hc
    obtain ⟨c1, hs, rfl⟩ := hc
    exact readRegs_mem_instructors h4 h6 hs k

end CD

#print axioms CD.pcd_choices
#print axioms CD.pcd_choices_mem
#print axioms CD.readRegs_refines
#print axioms CD.readRegs_spec
#print axioms CD.readRegs_parts
#print axioms CD.readRegs_all_parsed
#print axioms CD.keep_toReg_iff
#print axioms CD.readCourses_spec
#print axioms CD.readCourses_sorted
#print axioms CD.courseEntry_spec
#print axioms CD.courseSkipped_spec
#print axioms CD.courseIndex_known
#print axioms CD.findTrack_none_no_track
#print axioms CD.findTrack_none_two_tracks
#print axioms CD.findTrack_some_absent
#print axioms CD.read_refuse_of_findTrack
#print axioms CD.read_spec
#print axioms CD.readRegs_invisible
