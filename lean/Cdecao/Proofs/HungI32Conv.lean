import Cdecao.Model.HungarianI32
import Cdecao.Proofs.HungProof
/-! The range-checked model `H2B` (Cdecao/Model/HungarianI32.lean) only ever fails more often than `H2`:
    whatever `H2B.run B I` returns, `H2.run I` returns too (for every bound `B`, every input). -/
namespace H2B
open H2

theorem chk_some {B v : Int} (h1 : -B ≤ v) (h2 : v < B) : chk B v = some v := by
  simp [chk, h1, h2]

theorem chk_eq_some {B v a : Int} (h : chk B v = some a) : a = v := by
  unfold chk at h
  split at h <;> cases h
  rfl

theorem foldlM_sim {β : Type} (f : β → Nat → β) (g : β → Nat → Option β) :
    ∀ (l : List Nat) (b : β), (∀ b, ∀ i ∈ l, g b i = some (f b i)) → l.foldlM g b = some (l.foldl f b) := by
  intro l
  induction l with
  | nil => intro b _; rfl
  | cons a l ih =>
    intro b h
    rw [List.foldlM_cons, h b a List.mem_cons_self]
    exact ih _ (fun b i hi => h b i (List.mem_cons_of_mem _ hi))

theorem foldlM_conv {β : Type} {f : β → Nat → β} {g : β → Nat → Option β}
    (hg : ∀ b i r, g b i = some r → r = f b i) :
    ∀ {l : List Nat} {b r : β}, l.foldlM g b = some r → r = l.foldl f b := by
  intro l
  induction l with
  | nil => intro b r h; simp at h; exact h.symm
  | cons a l ih =>
    intro b r h
    rw [List.foldlM_cons] at h
    obtain ⟨b', hga, h⟩ := Option.bind_eq_some_iff.1 h
    cases hg b a b' hga
    exact ih h

theorem all_range {n : Nat} {p : Nat → Bool} : (List.range n).all p = true ↔ ∀ i, i < n → p i = true := by
  simp [List.all_eq_true]

theorem tab_congr {α : Type} [Inhabited α] {n : Nat} {f g : Nat → α} (h : ∀ i, i < n → f i = g i) :
    Vec.tab n f = Vec.tab n g := by
  unfold Vec.tab
  congr 1
  congr 1
  funext i
  exact h i.val i.isLt

theorem tabM_some {α : Type} [Inhabited α] {n : Nat} {f : Nat → Option α} (g : Nat → α)
    (h : ∀ i, i < n → f i = some (g i)) : tabM n f = some (Vec.tab n g) := by
  unfold tabM
  rw [if_pos (all_range.2 fun i hi => by rw [h i hi]; rfl)]
  exact congrArg some (tab_congr fun i hi => by rw [h i hi]; rfl)

theorem tabM_conv {α : Type} [Inhabited α] {n : Nat} {f : Nat → Option α} {v : Vec α} (g : Nat → α)
    (hv : tabM n f = some v) (h : ∀ i a, i < n → f i = some a → a = g i) : v = Vec.tab n g := by
  unfold tabM at hv
  split at hv
  · next hall =>
    cases hv
    refine tab_congr fun i hi => ?_
    obtain ⟨a, hfi⟩ := Option.isSome_iff_exists.1 (all_range.1 hall i hi)
    rw [hfi]; exact h i a hi hfi
  · cases hv

/-- one iteration of `H2B.grow`: the tail of `H2.grow` with the continuation guarded by `sumsOk` -/
theorem growB_succ (B : Int) (I : Inp) (u fuel : Nat) (st : St) (tr : Tr) :
    H2B.grow B I u (fuel + 1) st tr =
      match pick B I st tr with
      | none => none
      | some (st1, tr1, y) =>
        H2.tail I u (fun st2 tr2 => if sumsOk B I st2 (st2.mm.get y) then H2B.grow B I u fuel st2 tr2 else none)
          st1 tr1 y := rfl

section conv
variable {B : Int} {I : Inp} {st : St} {tr : Tr}

theorem scanStep_conv {x y : Nat} {acc a : Scan} (h : scanStep B I st tr x acc y = some a) :
    a = H2.scanStep I st tr x acc y := by
  unfold scanStep at h
  unfold H2.scanStep
  by_cases hc : (!tr.t.get y && !I.skipy.get y && allowed I x y) = true
  · rw [if_pos hc] at h ⊢
    -- both checks pass, and their results are the sum and the delta of the unchecked step
    cases h1 : chk B (st.lx.get x + st.ly.get y) with
    | none => rw [h1] at h; cases h
    | some s =>
      cases chk_eq_some h1
      rw [h1] at h
      dsimp only at h
      cases h2 : chk B (st.lx.get x + st.ly.get y - I.wt x y) with
      | none => rw [h2] at h; cases h
      | some delta =>
        cases chk_eq_some h2
        rw [h2] at h
        dsimp only at h
        split at h
        · cases h
        · cases h; rfl
  · rw [if_neg hc] at h ⊢
    cases h; rfl

theorem scanRow_conv {x : Nat} {acc a : Scan} (h : scanRow B I st tr acc x = some a) :
    a = H2.scanRow I st tr acc x := by
  unfold scanRow at h
  unfold H2.scanRow
  split at h
  · rename_i hc
    rw [if_pos hc]
    exact foldlM_conv (fun _ _ _ => scanStep_conv) h
  · rename_i hc
    rw [if_neg hc]
    cases h; rfl

theorem scan_conv {sc : Scan} (h : scan B I st tr = some sc) : sc = H2.scan I st tr := by
  rw [H2.scan_eq]
  exact foldlM_conv (fun _ _ _ => scanRow_conv) h

theorem relabel_conv {d : Int} {st' : St} (h : relabel B I st tr d = some st') : st' = H2.relabel I st tr d := by
  unfold relabel at h
  split at h
  · cases h
  · rename_i lx hlx
    split at h
    · cases h
    · rename_i ly hly
      cases h
      rw [tabM_conv (fun x => if tr.s.get x then st.lx.get x - d else st.lx.get x) hlx
          (fun i a _ ha => chk_eq_some ha),
        tabM_conv (fun y => if tr.t.get y then st.ly.get y + d else st.ly.get y) hly
          (fun i a _ ha => chk_eq_some ha)]
      rfl

theorem pick_conv {p : St × Tr × Nat} (h : pick B I st tr = some p) : H2.pick I st tr = some p := by
  unfold pick at h
  unfold H2.pick
  split at h
  · next hf => simpa only [hf] using h
  · next hf =>
    simp only [hf]
    split at h
    · cases h
    · next sc hsc =>
      cases scan_conv hsc
      split at h
      · cases h
      · next d hd =>
        simp only [hd]
        split at h
        · cases h
        · next st' hr => cases relabel_conv hr; exact h

theorem grow_conv {u : Nat} : ∀ (fuel : Nat) (st : St) (tr : Tr) (r : St),
    H2B.grow B I u fuel st tr = some r → H2.grow I u fuel st tr = some r := by
  intro fuel
  induction fuel with
  | zero => intro st tr r h; simp [H2B.grow] at h
  | succ fuel ih =>
    intro st tr r h
    rw [growB_succ] at h
    rw [H2.grow_succ]
    split at h
    · cases h
    · next hp =>
      rw [pick_conv hp]
      refine tail_eq_some.2 ((tail_eq_some.1 h).imp_left fun ⟨hm, h⟩ => ⟨hm, ?_⟩)
      split at h
      · exact ih _ _ _ h
      · cases h

theorem outer_conv : ∀ (free : List Nat) (st r : St),
    H2B.outer B I free st = some r → H2.outer I free st = some r := by
  intro free
  induction free with
  | nil => intro st r h; simpa [H2B.outer, H2.outer] using h
  | cons u rest ih =>
    intro st r h
    simp only [H2B.outer] at h
    split at h
    · cases h
    · next tr hi =>
      obtain rfl : tr = H2.initTr I st u := by
        unfold H2B.initTr at hi
        split at hi
        · cases hi; rfl
        · cases hi
      split at h
      · cases h
      · next st' hg =>
        simp only [H2.outer, grow_conv _ _ _ _ hg]
        exact ih st' r h

theorem rowMax_conv {x : Nat} {a : Int} (h : H2B.rowMax B I x = some a) : a = H2.rowMax I x := by
  unfold H2B.rowMax at h
  unfold H2.rowMax
  refine foldlM_conv (fun b i r hr => ?_) h
  split at hr
  · cases hr
  · rename_i w hw
    cases chk_eq_some hw
    exact chk_eq_some hr

theorem score_conv {mm : Vec Nat} {a : Int} (h : score B I mm = some a) : a = scoreSum I mm := by
  unfold score at h
  unfold scoreSum
  refine foldlM_conv (fun b i r hr => ?_) h
  split at hr
  · rename_i hc; cases hr; simp [hc]
  · rename_i hc; simp only [hc]; exact chk_eq_some hr
end conv

theorem run_conv (B : Int) (I : Inp) (r : Vec Nat × Int) (h : H2B.run B I = some r) : H2.run I = some r := by
  unfold H2B.run at h
  rw [run_eq_outer]
  split at h
  · cases h
  · next lx0 hl =>
    cases tabM_conv (H2.rowMax I) hl (fun i a _ => rowMax_conv)
    dsimp only at h
    split at h
    · cases h
    · next st ho =>
      rw [outer_conv (freeRows I) (initSt I) st ho]
      split at h
      · cases h
      · next sc hs => cases score_conv hs; exact h

#print axioms run_conv
end H2B
