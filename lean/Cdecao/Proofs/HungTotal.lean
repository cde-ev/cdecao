import Mathlib.Data.Finset.Card
import Cdecao.Proofs.HungFinal
/-! Totality of `H2.run` (C07): under the invariants and an admissible matching the inner loop never runs
    out of fuel, always finds a finite `dmin`, and the augmentation walk terminates. -/
open Finset
namespace H2

def Sset (I : Inp) (tr : Tr) : Finset Nat := (range I.nx).filter (fun x => tr.s.get x = true)
def Tset (I : Inp) (tr : Tr) : Finset Nat := (range I.ny).filter (fun y => tr.t.get y = true)

theorem mem_Sset {I : Inp} {tr : Tr} {x : Nat} : x ∈ Sset I tr ↔ x < I.nx ∧ tr.s.get x = true := by simp [Sset]
theorem mem_Tset {I : Inp} {tr : Tr} {y : Nat} : y ∈ Tset I tr ↔ y < I.ny ∧ tr.t.get y = true := by simp [Tset]

/-- `τ` matches every live row to a live column of its own through an allowed pair (it saturates the rows; a
    perfect matching only if there are as many live columns as live rows) -/
structure Admits (I : Inp) (τ : Nat → Nat) : Prop where
  maps : ∀ x, InX I x → InY I (τ x)
  inj : ∀ x1 x2, InX I x1 → InX I x2 → τ x1 = τ x2 → x1 = x2
  allowed : ∀ x, InX I x → allowed I x (τ x) = true

/-- a perfect matching (column ↦ row) of a square problem, inverted, is a matching as `Admits` wants it
    (row ↦ column) -/
theorem admits_of_perfect {I : Inp} (hsq : #(probOf I).X = #(probOf I).Y) {σ : Nat → Nat}
    (hσ : Perfect (probOf I) σ) : ∃ τ, Admits I τ := by
  have hinv : ∀ x, InX I x → ∃ y ∈ ((probOf I).Y : Set Nat), σ y = x := fun x hx =>
    hσ.surjOn hsq ((mem_X _ _).2 hx)
  refine ⟨Function.invFunOn σ (probOf I).Y, fun x hx => (mem_Y _ _).1 (Function.invFunOn_mem (hinv x hx)),
    fun x1 x2 h1 h2 he => ?_, fun x hx => ?_⟩
  · rw [← Function.invFunOn_eq (hinv x1 h1), ← Function.invFunOn_eq (hinv x2 h2), he]
  · have := hσ.allowed _ (Function.invFunOn_mem (hinv x hx))
    rwa [Function.invFunOn_eq (hinv x hx)] at this

structure GInv (I : Inp) (tr : Tr) (rk : Nat → Nat) (fuel : Nat) : Prop where
  card : #(Sset I tr) = #(Tset I tr) + 1
  fuel : #(Tset I tr) + fuel = I.ny + 1
  rkle : ∀ x, tr.s.get x = true → rk x ≤ #(Tset I tr)

theorem Tset_card_le (I : Inp) (tr : Tr) : #(Tset I tr) ≤ I.ny :=
  (card_filter_le _ _).trans_eq (card_range I.ny)

theorem augment_total (I : Inp) (st : St) (u : Nat) (tr : Tr) (rk : Nat → Nat)
    (ht : TInv I st u tr) (hp : PInv I st u tr rk) :
    ∀ (fuel yy xx : Nat) (mmc : Vec Nat), tr.s.get xx = true → rk xx < fuel →
      ∃ mm', augment u tr fuel yy xx mmc = some mm' := by
  intro fuel
  induction fuel with
  | zero => intro _ _ _ _ h; omega
  | succ fuel ih =>
    intro yy xx mmc hs hrk
    simp only [augment]
    by_cases hxu : xx = u
    · simp [hxu]
    · simp only [hxu, if_false]
      obtain ⟨h1, _⟩ := hp.spar xx hs hxu
      obtain ⟨h2, _, _⟩ := hp.tpar _ h1
      have := hp.rkdec xx hs hxu
      exact ih _ _ _ h2 (by omega)

/-- If no eligible pair is left, the rows of `S` would all have to be matched into `T`. -/
theorem dmin_exists (I : Inp) (st : St) (u : Nat) (tr : Tr) (rk : Nat → Nat) (fuel : Nat) (τ : Nat → Nat)
    (ho : OInv I st) (ht : TInv I st u tr) (hg : GInv I tr rk fuel) (ha : Admits I τ)
    (hempty : ∀ y, tr.nlxt.get y = false) : ∃ d, (scan I st tr).dmin = some d := by
  have sp := scan_post I st tr ht.szN ht.szB hempty
  cases hd : (scan I st tr).dmin with
  | some d => exact ⟨d, rfl⟩
  | none =>
    exfalso
    have hin : ∀ x ∈ Sset I tr, τ x ∈ Tset I tr := by
      intro x hx
      obtain ⟨hlt, hs⟩ := mem_Sset.1 hx
      have hxX := ht.sX ho hs
      have hy := ha.maps x hxX
      refine mem_Tset.2 ⟨hy.1, Bool.of_not_eq_false fun htt => ?_⟩
      obtain ⟨d, hd', _⟩ := sp.lower x (τ x) ⟨hlt, hy.1, hs⟩ ⟨hs, htt, hy.2, ha.allowed x hxX⟩
      rw [hd] at hd'; cases hd'
    have hle := card_le_card_of_injOn τ hin fun x1 h1 x2 h2 =>
      ha.inj x1 x2 (ht.sX ho (mem_Sset.1 h1).2) (ht.sX ho (mem_Sset.1 h2).2)
    have := hg.card; omega

theorem pick_total {I : Inp} {st : St} {u : Nat} {tr : Tr} {rk : Nat → Nat} {fuel : Nat} {τ : Nat → Nat}
    (ha : Admits I τ) (ho : OInv I st) (ht : TInv I st u tr) (hg : GInv I tr rk fuel) :
    ∃ p, pick I st tr = some p := by
  unfold pick
  cases hf : findPos I.ny tr.nlxt.get with
  | some y => exact ⟨_, rfl⟩
  | none =>
    have he := nlxt_empty ht.szN hf
    obtain ⟨d, hd⟩ := dmin_exists I st u tr rk fuel τ ho ht hg ha he
    obtain ⟨y0, hy0, hy0t⟩ := (scan_post I st tr ht.szN ht.szB he).ne d hd
    simp only [hd]
    cases hf2 : findPos I.ny (scan I st tr).nlxt.get with
    | none => have := findPos_none hf2 y0 hy0; simp [hy0t] at this
    | some y => exact ⟨_, rfl⟩

theorem Sset_growTr {I : Inp} {st : St} {tr : Tr} {y : Nat} (hz : TSz I tr) (hlt : st.mm.get y < I.nx) :
    Sset I (growTr I st tr y) = insert (st.mm.get y) (Sset I tr) := by
  ext x
  simp only [mem_Sset, mem_insert, growTr_s hz hlt]
  by_cases e : x = st.mm.get y
  · subst e; simp [hlt]
  · simp [e]

theorem Tset_growTr {I : Inp} {st : St} {tr : Tr} {y : Nat} (hz : TSz I tr) (hlt : y < I.ny) :
    Tset I (growTr I st tr y) = insert y (Tset I tr) := by
  ext y'
  simp only [mem_Tset, mem_insert, growTr_t hz hlt]
  by_cases e : y' = y
  · subst e; simp [hlt]
  · simp [e]

/-- adding a matched column and its row, one rank above the row it was reached from, keeps the counts -/
theorem growth_ginv {I : Inp} {st : St} {u : Nat} {tr : Tr} {rk : Nat → Nat} {fuel y : Nat} (ho : OInv I st)
    (ht : TInv I st u tr) (hz : TSz I tr) (hy : tr.nlxt.get y = true) (hm : st.m.get y = true)
    (hg : GInv I tr rk (fuel + 1)) :
    GInv I (growTr I st tr y) (fun x => if x = st.mm.get y then rk (tr.nb.get y) + 1 else rk x) fuel := by
  obtain ⟨hyY, hty, hsnb, _, _⟩ := ht.nl y hy
  have hzX := (ho.mrow y hm).2.1
  have hzn : st.mm.get y ∉ Sset I tr := by simp [mem_Sset, ht.fresh ho hm hty]
  have hyn : y ∉ Tset I tr := by simp [mem_Tset, hty]
  have hT : #(Tset I (growTr I st tr y)) = #(Tset I tr) + 1 := by
    rw [Tset_growTr hz hyY.1, card_insert_of_notMem hyn]
  refine ⟨by rw [Sset_growTr hz hzX.1, card_insert_of_notMem hzn, hT, hg.card], by have := hg.fuel; omega,
    fun x hx => ?_⟩
  rw [hT]
  by_cases e : x = st.mm.get y
  · simp only [e, if_true]; have := hg.rkle _ hsnb; omega
  · simp only [e, if_false]; have := hg.rkle x (((growTr_s hz hzX.1 x).1 hx).resolve_left e); omega

theorem grow_total (I : Inp) (u : Nat) (τ : Nat → Nat) (ha : Admits I τ) :
    ∀ (fuel : Nat) (st : St) (tr : Tr) (rk : Nat → Nat),
      OInv I st → TInv I st u tr → PInv I st u tr rk → TSz I tr → GInv I tr rk fuel →
      ∃ st', grow I u fuel st tr = some st' := by
  intro fuel
  induction fuel with
  | zero =>
    intro st tr rk _ _ _ _ hg
    have := hg.fuel; have := Tset_card_le I tr; omega
  | succ fuel ih =>
    intro st tr rk ho ht hp hz hg
    obtain ⟨⟨st1, tr1, y⟩, hpk⟩ := pick_total ha ho ht hg
    obtain ⟨lx, ly, nl, nb, rfl, rfl, ho1, ht1, hp1, hz1, hy⟩ := pick_inv ho ht hp hz hpk
    -- `S` and `T` are untouched by `pick`
    have hg1 : GInv I { tr with nlxt := nl, nb := nb } rk (fuel + 1) := ⟨hg.card, hg.fuel, hg.rkle⟩
    rw [grow_succ, hpk]
    simp only [tail]
    split
    · next hm =>
      obtain ⟨a, b, c⟩ := growth_step I _ u _ rk y ho1 ht1 hp1 hz1 hy hm
      exact ih _ _ _ ho1 a b c (growth_ginv ho1 ht1 hz1 hy hm hg1)
    · -- the walk starts at a row of `S`, whose rank is at most `#T ≤ ny`
      have hsnb := (ht1.nl y hy).2.2.1
      have := hg1.rkle _ hsnb
      have := Tset_card_le I { tr with nlxt := nl, nb := nb }
      obtain ⟨mm', hmm'⟩ := augment_total I _ u _ rk ht1 hp1 (I.ny + 1) y _ st.mm hsnb (by omega)
      simp only [hmm']; exact ⟨_, rfl⟩

#print axioms grow_total

theorem initTr_ginv {I : Inp} {st : St} {u : Nat} (hu : InX I u) : GInv I (initTr I st u) (fun _ => 0) (I.ny + 1) := by
  have hS : Sset I (initTr I st u) = {u} := by
    ext x; simp only [mem_Sset, initTr_s hu.1, mem_singleton]
    exact ⟨fun h => h.2, fun h => ⟨h ▸ hu.1, h⟩⟩
  have hT : Tset I (initTr I st u) = ∅ := by
    ext y; simp [mem_Tset, show (initTr I st u).t.get y = false from Vec.get_const_default I.ny y]
  refine ⟨by rw [hS, hT]; simp, by rw [hT]; simp, by intro x _; simp⟩

theorem outer_total (I : Inp) (τ : Nat → Nat) (ha : Admits I τ) : ∀ (free : List Nat) (st : St),
    OutInv I free st → (∀ u ∈ free, InX I u) → free.Nodup → ∃ st', outer I free st = some st' := by
  intro free
  induction free with
  | nil => intro st _ _ _; exact ⟨st, rfl⟩
  | cons u rest ih =>
    intro st h hX hnd
    have huX := hX u List.mem_cons_self
    have hnd' := List.nodup_cons.1 hnd
    obtain ⟨a, b, c⟩ := initTr_inv h huX
    obtain ⟨st1, hg⟩ := grow_total I u τ ha (I.ny + 1) st (initTr I st u) _ h.inv a b c (initTr_ginv huX)
    simp only [outer, hg]
    exact ih st1 (phase_outInv h huX hnd'.1 hg).1 (fun v hv => hX v (List.mem_cons_of_mem _ hv)) hnd'.2

theorem hung_total (I : Inp) (τ : Nat → Nat) (ha : Admits I τ) : ∃ r, run I = some r := by
  obtain ⟨st', hst'⟩ := outer_total I τ ha _ _ (init_outInv I) (fun _ => mem_freeRows.1) (freeRows_nodup I)
  rw [run_eq_outer, hst']
  exact ⟨_, rfl⟩

#print axioms hung_total
end H2
