import Cdecao.Model.Main
/-! `MainM.front` stage by stage — when each stage passes and what it then delivers, with which
    statuses it refuses, where the worker count enters — and `MainM.run` in terms of `front` and the
    output stage. Core only. -/

theorem Except.exists_error_of_not_ok {ε α : Type} {x : Except ε α} (h : ∀ a, x ≠ .ok a) :
    ∃ c, x = .error c := by
  cases x with
  | error c => exact ⟨c, rfl⟩
  | ok a => exact absurd rfl (h a)

namespace CLI

theorem outputStage_no_fault (found print req : Bool) :
    outputStage found print ⟨req, true, true⟩ = ⟨if found then 0 else 1, found && print, found && req⟩ := by
  cases found <;> cases req <;> rfl
end CLI

namespace MainM
open CLI

theorem parseRooms_codes {o : Opts} {e : Env} {c : Nat} (h : parseRooms o e = .error c) :
    c = EX_USAGE ∨ c = EX_DATAERR ∨ c = EX_NOINPUT := by
  unfold parseRooms at h
  repeat' split at h
  all_goals cases h
  all_goals simp

theorem parseRooms_ok {o : Opts} {e : Env} {r : Option (List Nat)} {k : Option (List RM.Kind)}
    (h : parseRooms o e = .ok (r, k)) :
    (o.roomsFile = false ∧ k = none ∧
       ((o.rooms = none ∧ r = none) ∨ ∃ s, o.rooms = some s ∧ r.isSome ∧ RI.parseRoomsStr s = r)) ∨
    (o.roomsFile = true ∧ o.rooms = none ∧ ∃ j ks, e.roomsFile = .doc j ∧ RI.kindsOf j = some ks ∧
       r = some (RM.readKinds ks).1 ∧ k = some (RM.readKinds ks).2) := by
  unfold parseRooms at h
  repeat' split at h
  all_goals cases h
  · rename_i _ _ s hr hf _ l hp
    exact .inl ⟨hf, rfl, .inr ⟨s, hr, rfl, hp⟩⟩
  · rename_i _ _ hr hf _ j hj _ ks hk
    exact .inr ⟨hf, hr, j, ks, hj, hk, rfl, rfl⟩
  · rename_i _ _ hr hf
    exact .inl ⟨hf, rfl, .inl ⟨hr, rfl⟩⟩
theorem parseTrack_codes {t : Option String} {c : Nat} (h : parseTrack t = .error c) : c = EX_DATAERR := by
  unfold parseTrack at h
  repeat' split at h
  all_goals cases h
  rfl

theorem readInput_codes {o : Opts} {i : FileIn} {c : Nat} (h : readInput o i = .error c) : c = EX_DATAERR := by
  unfold readInput at h
  repeat' split at h
  all_goals cases h
  · exact parseTrack_codes ‹_›
  all_goals rfl

theorem readInput_ok {o : Opts} {i : FileIn} {d : Data} (h : readInput o i = .ok d) : ∃ j, i = .doc j ∧
    ((o.cde = false ∧ ∃ ps cs, SM.read j = .ok (ps, cs) ∧ d = .simple ps cs) ∨
     (o.cde = true ∧ ∃ track ps cs amb, parseTrack o.track = .ok track ∧
        CD.read j { track := track, ignoreCancelled := o.ignoreCancelled, ignoreAssigned := o.ignoreAssigned,
                    factorField := o.factorField, offsetField := o.offsetField } = .ok (ps, cs, amb) ∧
        d = .cde ps cs amb)) := by
  unfold readInput at h
  -- every stage fails (then `h` is absurd) or delivers its value
  repeat' split at h
  all_goals cases h
  · rename_i hc _ track ht _ j _ ps cs amb hrd
    exact ⟨j, rfl, .inr ⟨hc, track, ps, cs, amb, ht, hrd, rfl⟩⟩
  · rename_i hc _ j _ ps cs hrd
    exact ⟨j, rfl, .inl ⟨by simpa using hc, ps, cs, hrd, rfl⟩⟩

/-- `front` accepts exactly when every stage passes, and the problem handed to the solver is made
    of what the stages deliver -/
theorem front_ok_iff {o : Opts} {e : Env} {pb : Problem} : front o e = .ok pb ↔
    o.threads ≠ some 0 ∧ parseRooms o e = .ok (pb.rooms, pb.kinds) ∧
    ∃ j, e.input = .doc j ∧ readInput o (.doc j) = .ok pb.data ∧ pb.data.consistent = true ∧
      pb.data.numParts ≠ 0 ∧ pb.threads = o.threads.getD e.cpus := by
  constructor
  · intro h
    unfold front at h
    -- every stage refuses (then `h` is absurd) or passes
    repeat' split at h
    all_goals cases h
    rename_i hth _ rooms kinds hpr _ _ _ d hd hc hn
    obtain ⟨j, hj, -⟩ := readInput_ok hd
    exact ⟨by simpa using hth, hpr, j, hj, hj ▸ hd, by simpa using hc, by simpa using hn, rfl⟩
  · rintro ⟨ht, hp, j, hj, hr, hc, hn, hthr⟩
    obtain ⟨d, r, k, t⟩ := pb
    simp only at hp hr hc hn hthr
    have ht' : (o.threads == some 0) = false := by simpa using ht
    have hn' : (d.numParts == 0) = false := by simpa using hn
    simp only [front, ht', hp, hj, hr, hc, hn', hthr, Bool.not_true, Bool.false_eq_true, if_false]

/-- a refusal of `front` is the refusal of the first stage that does not pass -/
theorem front_error {o : Opts} {e : Env} {c : Nat} (h : front o e = .error c) :
    (o.threads = some 0 ∧ c = EX_USAGE) ∨ parseRooms o e = .error c ∨
    (e.input = .cannotOpen ∧ c = EX_NOINPUT) ∨ readInput o e.input = .error c ∨ c = EX_DATAERR := by
  unfold front at h
  repeat' split at h
  all_goals cases h
  · exact .inl ⟨eq_of_beq ‹_›, rfl⟩
  · exact .inr (.inl ‹_›)
  · exact .inr (.inr (.inl ⟨‹_›, rfl⟩))
  · exact .inr (.inr (.inr (.inl ‹_›)))
  all_goals exact .inr (.inr (.inr (.inr rfl)))

/-- `front` looks at the worker count only for the zero check and to fill `Problem.threads` -/
theorem front_threads {o : Opts} {e : Env} (t : Option Nat) (n : Nat) (h : o.threads ≠ some 0) (ht : t ≠ some 0) :
    front { o with threads := t } { e with cpus := n } =
      (front o e).map fun pb => { pb with threads := t.getD n } := by
  have e1 : (o.threads == some 0) = false := by simpa using h
  have e2 : (t == some 0) = false := by simpa using ht
  have hpr : parseRooms { o with threads := t } { e with cpus := n } = parseRooms o e := rfl
  have hri : ∀ i, readInput { o with threads := t } i = readInput o i := fun _ => rfl
  simp only [front, e1, e2, hpr, hri, Bool.false_eq_true, if_false]
  repeat' split
  all_goals rfl

theorem run_of_error {o : Opts} {e : Env} {c : Nat} (h : front o e = .error c) (found : Problem → Bool)
    (created written : Bool) : run o e found created written = ⟨c, false, false, false, false⟩ := by
  simp only [run, h]

theorem run_of_ok {o : Opts} {e : Env} {pb : Problem} (h : front o e = .ok pb) (found : Problem → Bool)
    (created written : Bool) :
    run o e found created written =
      let out := outputStage (found pb) o.print ⟨o.output, created, written⟩
      ⟨out.exit, true, found pb && o.output, out.fileComplete, out.listing⟩ := by
  simp only [run, h]

theorem run_exit_ok {o : Opts} {e : Env} {pb : Problem} (h : front o e = .ok pb) (found : Problem → Bool) :
    (run o e found true true).exit = if found pb then 0 else 1 := by
  rw [run_of_ok h, outputStage_no_fault]

/-- `check_data_consistency` and the emptiness test of main.rs together are `SM.validate` -/
theorem validate_eq (ps : List SM.PartD) (cs : List SM.CourseD) :
    SM.validate ps cs = ((Data.simple ps cs).consistent && !ps.isEmpty) := rfl

end MainM
