import Mathlib.Algebra.BigOperators.Group.Finset.Basic
import Mathlib.Data.Finset.Card
import Cdecao.Proofs.Gate
import Cdecao.Spec.Score
/-! C08, score half: the score returned with a feasible node equals the score recomputed from the
    assignment by the documented rule. Builds on the closed forms of `Gate.lean`. -/
open Finset
namespace N2.G

/-- what the node computes: matching score over non-skipped columns + instructor bonus -/
def nodeScore (I : Inst) (X : Ctx) (w : Nat → Nat → Nat) : Nat :=
  (∑ cp ∈ (range X.m).filter (fun cp => X.skipY cp = false), w (X.mm cp) cp) +
  ∑ p ∈ (range I.P).filter (fun p => (instrOf I X p).isSome = true ∧ I.hasChoices p = true), W

/-- the documented rule, applied to the reported assignment -/
def scoreOf (I : Inst) (a : Nat → Option Nat) : Nat :=
  ∑ p ∈ range I.P,
    match a p with
    | none => 0
    | some c => if I.instructs p c = true then (if I.hasChoices p = true then W else 0) else weightOf I p c

theorem scoreOf_eq (I : Inst) (a : Nat → Option Nat) : scoreOf I a = ∑ p ∈ range I.P, scoreTerm I a p := rfl

theorem weightOf_cases (I : Inst) (p c : Nat) :
    (∃ ch ∈ (I.part p).choices, ch.course = c ∧ weightOf I p c = W - ch.penalty) ∨
    ((¬ ∃ ch ∈ (I.part p).choices, ch.course = c) ∧ weightOf I p c = 0) := by
  unfold weightOf
  cases hf : (I.part p).choices.reverse.find? (fun ch => ch.course == c) with
  | none =>
    refine .inr ⟨fun ⟨ch, hm, hc⟩ => ?_, rfl⟩
    simpa [hc] using List.find?_eq_none.1 hf ch (List.mem_reverse.2 hm)
  | some ch =>
    exact .inl ⟨ch, List.mem_reverse.1 (List.mem_of_find?_eq_some hf), by simpa using List.find?_some hf, rfl⟩

theorem weightOf_le (I : Inst) (p c : Nat) : weightOf I p c ≤ W := by
  rcases weightOf_cases I p c with ⟨_, -, -, h⟩ | ⟨-, h⟩ <;> omega

theorem scoreTerm_le (I : Inst) (a : Nat → Option Nat) (p : Nat) : scoreTerm I a p ≤ W := by
  unfold scoreTerm
  split
  · omega
  · split
    · split <;> omega
    · exact weightOf_le I p _

/-- facts about the adjacency matrix and the matching beyond `CtxOK` (perfect matching, H2) -/
structure ScoreCtx (I : Inst) (X : Ctx) (w : Nat → Nat → Nat) : Prop where
  wreal : ∀ p cp, p < I.P → cp < X.m → w p cp = weightOf I p (X.courseMap cp)
  wdummy : ∀ x cp, I.P ≤ x → w x cp = 0
  /-- every active participant is matched to some non-skipped column -/
  surj : ∀ p, p < I.P → isInstr I X p = false → ∃ cp, cp < X.m ∧ X.skipY cp = false ∧ X.mm cp = p
  /-- instructors of live courses are skipped (holds by definition of `isInstr`: `isInstr_true_of`) -/
  instrSkipped : ∀ p c, c < I.C → c ∉ X.cancelled → I.instructs p c = true → isInstr I X p = true

/-- the score term of a participant under the node's assignment: the bonus if they instruct a live course
    and have choices, else the weight of the course they are matched to if they are active -/
theorem scoreTerm_assign {I : Inst} {X : Ctx} (ok : CtxOK I X) {p : Nat} (hp : p < I.P) :
    scoreTerm I (assign I X) p
      = (if (instrOf I X p).isSome = true ∧ I.hasChoices p = true then W else 0) +
        (if isInstr I X p = false then (match matched X p with | some c => weightOf I p c | none => 0) else 0) := by
  unfold scoreTerm
  cases hi : instrOf I X p with
  | some c =>
    obtain ⟨hc, hl, hin⟩ := instrOf_some hi
    simp [assign, hi, hin, isInstr_true_of hc hl hin]
  | none =>
    simp only [assign, hi, Option.isSome_none, Bool.false_eq_true, false_and, if_false, Nat.zero_add]
    cases hm : matched X p with
    | none => simp
    | some c =>
      obtain ⟨cp, h1, h2, h3, h4⟩ := matched_some hm
      -- a matched participant is active, and does not instruct the (live) course of the column
      have hact : isInstr I X p = false := h3 ▸ ok.rows cp h1 h2 (h3 ▸ hp)
      have hlive := h4 ▸ ok.live cp h1 h2
      simp [hact, (isInstr_false_iff.1 hact).2 c hlive.1 hlive.2]

theorem score_truthful (I : Inst) (X : Ctx) (w : Nat → Nat → Nat) (ok : CtxOK I X) (sc : ScoreCtx I X w) :
    nodeScore I X w = scoreOf I (assign I X) := by
  rw [nodeScore, scoreOf_eq, sum_congr rfl (fun p hp => scoreTerm_assign ok (mem_range.1 hp)),
    sum_add_distrib, Nat.add_comm]
  refine congrArg₂ (· + ·) ?_ ?_
  · rw [sum_filter]
  · -- matching part: columns with dummy rows contribute nothing, the others are reindexed by their rows
    rw [← sum_filter, ← sum_filter_add_sum_filter_not ((range X.m).filter (fun cp => X.skipY cp = false))
      (fun cp => X.mm cp < I.P), filter_filter, filter_filter]
    have : ∑ cp ∈ (range X.m).filter (fun cp => X.skipY cp = false ∧ ¬ X.mm cp < I.P), w (X.mm cp) cp = 0 :=
      sum_eq_zero fun cp hcp => sc.wdummy _ cp (Nat.le_of_not_lt (mem_filter.1 hcp).2.2)
    rw [this, Nat.add_zero]
    apply sum_bij (fun cp _ => X.mm cp)
    · intro cp hcp
      simp only [mem_filter, mem_range] at hcp ⊢
      exact ⟨hcp.2.2, ok.rows cp hcp.1 hcp.2.1 hcp.2.2⟩
    · intro c1 h1 c2 h2 heq
      simp only [mem_filter, mem_range] at h1 h2
      exact ok.inj c1 c2 h1.1 h2.1 h1.2.1 h2.2.1 heq
    · intro p hp
      simp only [mem_filter, mem_range] at hp
      obtain ⟨cp, h1, h2, h3⟩ := sc.surj p hp.1 hp.2
      exact ⟨cp, by simp only [mem_filter, mem_range]; exact ⟨h1, h2, by rw [h3]; exact hp.1⟩, h3⟩
    · intro cp hcp
      simp only [mem_filter, mem_range] at hcp
      rw [sc.wreal _ cp hcp.2.2 hcp.1, matched_of_col ok.inj hcp.1 hcp.2.1]

#print axioms score_truthful
end N2.G
