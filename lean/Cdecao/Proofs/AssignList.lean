/-! How the specification (`N2.G.HardOK`, `scoreOf`, … over functions `Nat → Option Nat`) reads the
list that the search reports and the writer consumes. Core only. -/
namespace N2.G

def ofList (al : List (Option Nat)) : Nat → Option Nat := fun p => al.getD p none

theorem ofList_eq_some {al : List (Option Nat)} {p c : Nat} :
    ofList al p = some c ↔ al[p]? = some (some c) := by
  unfold ofList
  rw [List.getD_eq_getElem?_getD]
  cases h : al[p]? with
  | none => simp
  | some x => simp

theorem ofList_map (P : Nat) (a : Nat → Option Nat) (p : Nat) (hp : p < P) :
    ofList ((List.range P).map a) p = a p := by
  simp [ofList, List.getD_eq_getElem?_getD, hp]

end N2.G
