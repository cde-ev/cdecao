import Cdecao.Proofs.NodeInv
/-! Evaluating a node of a concrete instance in the kernel: decidable equality of node results, and the
    room arithmetic made a closed term where no room list is given. -/
namespace N2

deriving instance DecidableEq for Node, Res

/-- Without a room list the room arithmetic is never consulted: a node result may be computed with any
    `R`, in particular a closed one, which the kernel can evaluate (`decide +kernel`). -/
theorem runNodeS_of_noRooms {I : Inst} (h : I.rooms = none) (R : RoomFns) {nd : Node} {r : M Res}
    (he : runNodeS I ⟨fun _ _ => 0, fun _ _ => 0⟩ nd = r) : runNodeS I R nd = r := by
  simpa only [runNodeS, post, roomStage, roomSizes_none h] using he

end N2
