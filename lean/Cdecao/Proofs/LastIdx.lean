import Cdecao.Model.Cdedb

/-! What `CD.lastIdx` and, through it, `CD.courseIndex` return: of several kept courses with the same
database id the last one wins; with unique ids this is `List.findIdx?`. -/

namespace CD

theorem lastIdx_eq_none_iff {α : Type} (p : α → Bool) :
    ∀ (l : List α) (k : Nat), lastIdx p l k = none ↔ ∀ x ∈ l, p x = false := by
  intro l
  induction l with
  | nil => intro k; simp [lastIdx]
  | cons a l ih =>
    intro k
    unfold lastIdx
    rw [List.forall_mem_cons, ← ih (k + 1)]
    cases lastIdx p l (k + 1) with
    | some i => simp
    | none => cases p a <;> simp
/-- a hit of `lastIdx` counted from `k` is `k + j` for the last position `j` satisfying `p` -/
theorem lastIdx_some {α : Type} (p : α → Bool) :
    ∀ (l : List α) (k i : Nat), lastIdx p l k = some i →
      ∃ j, i = k + j ∧ ∃ h : j < l.length, p l[j] = true ∧
        ∀ j' (h' : j' < l.length), j < j' → p l[j'] = false := by
  intro l
  induction l with
  | nil => intro k i h; cases h
  | cons a l ih =>
    intro k i h
    unfold lastIdx at h
    cases h1 : lastIdx p l (k + 1) with
    | some i0 =>
      rw [h1] at h
      cases h
      obtain ⟨j, rfl, hj, hpj, hlater⟩ := ih (k + 1) i h1
      refine ⟨j + 1, by rw [Nat.add_assoc, Nat.add_comm 1 j], Nat.succ_lt_succ hj, hpj, ?_⟩
      intro j' h' hlt
      cases j' with
      | zero => exact absurd hlt (Nat.not_lt_zero _)
      | succ j'' => exact hlater j'' (Nat.lt_of_succ_lt_succ h') (Nat.lt_of_succ_lt_succ hlt)
    | none =>
      rw [h1] at h
      cases hp : p a with
      | false => simp only [hp, Bool.false_eq_true, if_false] at h; cases h
      | true =>
        simp only [hp, if_true, Option.some.injEq] at h
        subst h
        refine ⟨0, rfl, Nat.zero_lt_succ _, hp, ?_⟩
        intro j' h' hlt
        cases j' with
        | zero => exact absurd hlt (Nat.lt_irrefl 0)
        | succ j'' => exact (lastIdx_eq_none_iff p l (k + 1)).1 h1 _ (List.getElem_mem _)

theorem lastIdx_eq_some_iff {α : Type} (p : α → Bool) (l : List α) (i : Nat) :
    lastIdx p l 0 = some i ↔
      ∃ h : i < l.length, p l[i] = true ∧ ∀ j (h' : j < l.length), i < j → p l[j] = false := by
  constructor
  · intro h
    obtain ⟨j, rfl, hj⟩ := lastIdx_some p l 0 i h
    rw [Nat.zero_add]
    exact hj
  · rintro ⟨h, hp, hl⟩
    cases hf : lastIdx p l 0 with
    | none => rw [(lastIdx_eq_none_iff p l 0).1 hf _ (List.getElem_mem h)] at hp; cases hp
    | some i' =>
      -- there is only one last position
      obtain ⟨j, rfl, hj, hpj, hlj⟩ := lastIdx_some p l 0 i' hf
      rcases Nat.lt_trichotomy i j with hlt | rfl | hgt
      · rw [hl j hj hlt] at hpj; cases hpj
      · rw [Nat.zero_add]
      · rw [hlj i h hgt] at hp; cases hp

theorem lastIdx_eq_findIdx?_of_unique {α : Type} (p : α → Bool) (l : List α)
    (hu : ∀ i j (hi : i < l.length) (hj : j < l.length), p l[i] = true → p l[j] = true → i = j) :
    lastIdx p l 0 = l.findIdx? p := by
  cases hf : l.findIdx? p with
  | none =>
    rw [List.findIdx?_eq_none_iff] at hf
    rw [lastIdx_eq_none_iff]
    intro x hx; simpa using hf x hx
  | some i =>
    obtain ⟨hi, hp, _⟩ := List.findIdx?_eq_some_iff_getElem.1 hf
    rw [lastIdx_eq_some_iff]
    refine ⟨hi, hp, ?_⟩
    intro j hj hlt
    cases hpj : p l[j] with
    | false => rfl
    | true => have := hu i j hi hj hp hpj; omega

theorem courseIndex_eq (co : CoursesOut) (id : Nat) :
    courseIndex co id = if id ∈ co.skipped then some none
      else (lastIdx (fun c => c.dbid == id) co.courses 0).map some := by
  unfold courseIndex
  by_cases hs : id ∈ co.skipped
  · rw [if_pos hs, if_pos (List.contains_iff_mem.2 hs)]
  · rw [if_neg hs, if_neg (mt List.contains_iff_mem.1 hs)]
    cases lastIdx (fun c => c.dbid == id) co.courses 0 <;> rfl

theorem courseIndex_eq_some_some_iff (co : CoursesOut) (id c : Nat) :
    courseIndex co id = some (some c) ↔
      id ∉ co.skipped ∧ ∃ h : c < co.courses.length, (co.courses[c]).dbid = id ∧
        ∀ j (h' : j < co.courses.length), c < j → (co.courses[j]).dbid ≠ id := by
  rw [courseIndex_eq]
  by_cases hs : id ∈ co.skipped
  · simp [hs]
  · rw [if_neg hs]
    simp only [Option.map_eq_some_iff, Option.some.injEq, exists_eq_right, hs,
      not_false_eq_true, true_and, lastIdx_eq_some_iff, beq_iff_eq, beq_eq_false_iff_ne]

theorem courseIndex_eq_some_none_iff (co : CoursesOut) (id : Nat) :
    courseIndex co id = some none ↔ id ∈ co.skipped := by
  rw [courseIndex_eq]
  by_cases hs : id ∈ co.skipped <;> simp [hs]

theorem courseIndex_eq_none_iff (co : CoursesOut) (id : Nat) :
    courseIndex co id = none ↔ id ∉ co.skipped ∧ ∀ c ∈ co.courses, c.dbid ≠ id := by
  rw [courseIndex_eq]
  by_cases hs : id ∈ co.skipped
  · simp [hs]
  · rw [if_neg hs]
    simp only [Option.map_eq_none_iff, lastIdx_eq_none_iff, beq_eq_false_iff_ne, hs,
      not_false_eq_true, true_and]

theorem courseIndex_ne_none_iff (co : CoursesOut) (id : Nat) :
    courseIndex co id ≠ none ↔ id ∈ co.skipped ∨ ∃ c ∈ co.courses, c.dbid = id := by
  rw [ne_eq, courseIndex_eq_none_iff]
  constructor
  · intro h
    by_cases hs : id ∈ co.skipped
    · exact Or.inl hs
    · right
      exact Classical.byContradiction fun hc => h ⟨hs, fun c hc' he => hc ⟨c, hc', he⟩⟩
  · rintro (hs | ⟨c, hc, he⟩) ⟨h1, h2⟩
    · exact h1 hs
    · exact h2 c hc he

theorem courseIndex_dbid {co : CoursesOut} {id c : Nat} {c0 : Course}
    (h : courseIndex co id = some (some c)) (hc : co.courses[c]? = some c0) : id = c0.dbid := by
  obtain ⟨_, _, hd, _⟩ := (courseIndex_eq_some_some_iff co id c).1 h
  rw [← (List.getElem?_eq_some_iff.1 hc).2, hd]

end CD
