import Cdecao.Proofs.ReaderResult
import Cdecao.Proofs.AssignList
import Cdecao.Spec.Hard
/-! # The import file is consistent with the export it was computed from (properties C05, C11)

At the level of the model: the reader `CD.read`, the writer objects `CD.writeRegs` /
`CD.writeCourses`, and the hard constraints `N2.G.HardOK` of the problem that was read
(`CD.toInst parts courses`). `Link` ties a successful `read` to the export: the registration behind
each participant index, the course entry behind each course index. The clauses (a)–(f) of
`Props.C05_consistent` (Props/C05.lean) and `Props.C11_consistent` (Props/C11.lean) are proved from
`Link` and `HardOK` alone; distinct course keys (`NodupKeys`) are needed where an id has to single out
an entry of the export: (e), the export form of the ignored counts, and in C11 that a written id is not
the key of an entry that is not kept (`Link.written_kept`: second half of (a), cancelled courses of (f)).
`CD.Ex` is a concrete export on which all hypotheses hold. Core only (no Mathlib). -/

namespace N2.G

theorem HardOK.instructs_or_chose {I : Inst} {a : Nat → Option Nat} (h : HardOK I a) {p c : Nat}
    (hp : p < I.P) (ha : a p = some c) :
    I.instructs p c = true ∨ ∃ ch ∈ (I.part p).choices, ch.course = c := by
  cases hh : I.hasChoices p with
  | false => exact Or.inl (h.only p hp hh c ha)
  | true =>
    by_cases hex : ∃ c', c' < I.C ∧ I.instructs p c' = true ∧ takesPlace I a c'
    · obtain ⟨c', hc', hi, ht⟩ := hex
      obtain rfl := Option.some.inj (ha.symm.trans (h.instr c' hc' ht p hp hi))
      exact Or.inl hi
    · obtain ⟨ch, hm, hch⟩ := h.chosen p hp hh hex
      exact Or.inr ⟨ch, hm, Option.some.inj (hch.symm.trans ha)⟩

theorem countP_pos_of_assigned {al : List (Option Nat)} {p c : Nat} (h : al[p]? = some (some c)) :
    0 < al.countP (· == some c) :=
  List.countP_pos_iff.2 ⟨some c, List.mem_of_getElem? h, by simp⟩

theorem exists_assigned_iff {al : List (Option Nat)} {n : Nat} (c : Nat) (hlen : al.length = n) :
    (∃ p, p < n ∧ ofList al p = some c) ↔ 0 < al.countP (· == some c) := by
  constructor
  · rintro ⟨p, _, hpc⟩
    exact countP_pos_of_assigned (ofList_eq_some.1 hpc)
  · intro h
    obtain ⟨x, hx, hxc⟩ := List.countP_pos_iff.1 h
    obtain rfl : x = some c := by simpa using hxc
    obtain ⟨p, hp, hget⟩ := List.getElem_of_mem hx
    refine ⟨p, hlen ▸ hp, ?_⟩
    rw [ofList_eq_some, List.getElem?_eq_getElem hp, hget]

theorem attendees_zero_of_not_takesPlace {I : Inst} {a : Nat → Option Nat} {c : Nat}
    (h : ¬ takesPlace I a c) : attendees I a c = 0 := by
  unfold attendees
  rw [List.countP_eq_zero]
  intro p hp
  rw [List.mem_range] at hp
  have : a p ≠ some c := fun heq => h (Or.inr ⟨p, hp, heq⟩)
  simp [this]

end N2.G

namespace CD
open JS N2.G

theorem eq_zero_or_add_le_of_le_sub {n k m : Nat} (h : n ≤ m - k) : n = 0 ∨ n + k ≤ m :=
  (Nat.eq_zero_or_pos n).imp_right fun hn =>
    Nat.add_le_of_le_sub (Nat.le_of_lt (Nat.lt_of_sub_pos (Nat.lt_of_lt_of_le hn h))) h

/-- the optimisation problem built from what `read` returns (no room data) -/
def toInst (parts : List Part) (courses : List Course) : N2.Inst :=
  { cs := courses.map (fun c => ⟨c.numMin, c.numMax, c.fixed, c.instructors⟩)
    ps := parts.map (fun p => ⟨p.choices.map (fun ch => ⟨ch.1, ch.2⟩)⟩)
    rooms := none }

@[simp] theorem toInst_C (parts : List Part) (courses : List Course) :
    (toInst parts courses).C = courses.length := by
  simp [toInst, N2.Inst.C]

@[simp] theorem toInst_P (parts : List Part) (courses : List Course) :
    (toInst parts courses).P = parts.length := by
  simp [toInst, N2.Inst.P]

theorem toInst_course (parts : List Part) {courses : List Course} {c : Nat} {cc : Course}
    (h : courses[c]? = some cc) :
    (toInst parts courses).course c = ⟨cc.numMin, cc.numMax, cc.fixed, cc.instructors⟩ := by
  simp [toInst, N2.Inst.course, List.getD_eq_getElem?_getD, List.getElem?_map, h]

theorem toInst_part {parts : List Part} (courses : List Course) {p : Nat} {pp : Part}
    (h : parts[p]? = some pp) :
    (toInst parts courses).part p = ⟨pp.choices.map (fun ch => ⟨ch.1, ch.2⟩)⟩ := by
  simp [toInst, N2.Inst.part, List.getD_eq_getElem?_getD, List.getElem?_map, h]

theorem toInst_instructs (parts : List Part) {courses : List Course} (p : Nat) {c : Nat} {cc : Course}
    (h : courses[c]? = some cc) :
    (toInst parts courses).instructs p c = true ↔ p ∈ cc.instructors := by
  unfold N2.Inst.instructs
  rw [toInst_course parts h]
  simp

theorem toInst_chose {parts : List Part} (courses : List Course) {p : Nat} (c : Nat) {pp : Part}
    (h : parts[p]? = some pp) :
    (∃ ch ∈ ((toInst parts courses).part p).choices, ch.course = c) ↔ ∃ pen, (c, pen) ∈ pp.choices := by
  rw [toInst_part courses h]
  simp only [List.mem_map]
  constructor
  · rintro ⟨ch, ⟨⟨c', pen⟩, hm, rfl⟩, rfl⟩
    exact ⟨pen, hm⟩
  · rintro ⟨pen, hm⟩
    exact ⟨⟨c, pen⟩, ⟨(c, pen), hm, rfl⟩, rfl⟩

theorem takesPlace_toInst {parts : List Part} {courses : List Course} {al : List (Option Nat)}
    (hlen : al.length = parts.length) {c : Nat} {cc : Course} (hcc : courses[c]? = some cc) :
    takesPlace (toInst parts courses) (ofList al) c ↔
      (decide (0 < al.countP (· == some c)) || cc.fixed) = true := by
  unfold takesPlace
  rw [toInst_course parts hcc, toInst_P, exists_assigned_iff c hlen]
  simp only [Bool.or_eq_true, decide_eq_true_eq]
  exact Or.comm

theorem writeCourses_getElem?_eq_some {courses : List Course} {al : List (Option Nat)} {c cid : Nat}
    {b : Bool} : (writeCourses courses al)[c]? = some (cid, b) ↔
      ∃ cc, courses[c]? = some cc ∧ cc.dbid = cid ∧
        (decide (0 < al.countP (· == some c)) || cc.fixed) = b := by
  unfold writeCourses
  rw [List.getElem?_map, List.getElem?_zipIdx, Option.map_map, Option.map_eq_some_iff]
  simp only [Function.comp_apply, Nat.zero_add, Prod.mk.injEq]

theorem mem_writeCourses {courses : List Course} {al : List (Option Nat)} {cid : Nat} {b : Bool} :
    (cid, b) ∈ writeCourses courses al ↔
      ∃ c cc, courses[c]? = some cc ∧ cc.dbid = cid ∧
        (decide (0 < al.countP (· == some c)) || cc.fixed) = b := by
  rw [List.mem_iff_getElem?]
  simp only [writeCourses_getElem?_eq_some]

theorem mem_writeRegs {parts : List Part} {courses : List Course} {al : List (Option Nat)}
    {rid cid : Nat} :
    (rid, cid) ∈ writeRegs parts courses al ↔
      ∃ (p : Nat) (pp : Part) (c : Nat), parts[p]? = some pp ∧ al[p]? = some (some c) ∧ rid = pp.dbid ∧
        cid = (courses.getD c default).dbid := by
  unfold writeRegs
  simp only [List.mem_filterMap, Option.map_eq_some_iff, Prod.mk.injEq, Prod.exists]
  constructor
  · rintro ⟨pp, x, hm, c, rfl, h1, h2⟩
    obtain ⟨p, hp⟩ := List.mem_iff_getElem?.1 hm
    rw [List.getElem?_zip_eq_some] at hp
    exact ⟨p, pp, c, hp.1, hp.2, h1.symm, h2.symm⟩
  · rintro ⟨p, pp, c, h1, h2, rfl, rfl⟩
    refine ⟨pp, some c, ?_, c, rfl, rfl, rfl⟩
    exact List.mem_iff_getElem?.2 ⟨p, by rw [List.getElem?_zip_eq_some]; exact ⟨h1, h2⟩⟩

/-- an entry of the registrations object when the assignment satisfies the hard constraints: the
    assigned index is then a course index, and `getD` finds the course -/
theorem mem_writeRegs_of_hardOK {parts : List Part} {courses : List Course} {al : List (Option Nat)}
    (hok : HardOK (toInst parts courses) (ofList al)) {rid cid : Nat}
    (h : (rid, cid) ∈ writeRegs parts courses al) :
    ∃ p pp c cc, parts[p]? = some pp ∧ al[p]? = some (some c) ∧ courses[c]? = some cc ∧
      p < (toInst parts courses).P ∧ rid = pp.dbid ∧ cid = cc.dbid := by
  obtain ⟨p, pp, c, hpp, hal, rfl, rfl⟩ := mem_writeRegs.1 h
  have hpP : p < (toInst parts courses).P := by
    rw [toInst_P]; exact (List.getElem?_eq_some_iff.1 hpp).1
  have hcC : c < courses.length := toInst_C parts courses ▸ hok.range p hpP c (ofList_eq_some.2 hal)
  refine ⟨p, pp, c, courses[c], hpp, hal, List.getElem?_eq_getElem hcC, hpP, rfl, ?_⟩
  rw [List.getD_eq_getElem?_getD, List.getElem?_eq_getElem hcC]
  rfl

/-- clause (b) of `Props.C05_consistent`; it needs the writer and `HardOK.range` only -/
theorem mem_writeCourses_of_mem_writeRegs {parts : List Part} {courses : List Course}
    {al : List (Option Nat)} (hok : HardOK (toInst parts courses) (ofList al)) {rid cid : Nat}
    (h : (rid, cid) ∈ writeRegs parts courses al) : (cid, true) ∈ writeCourses courses al := by
  obtain ⟨p, pp, c, cc, _, hal, hcc, _, _, rfl⟩ := mem_writeRegs_of_hardOK hok h
  exact mem_writeCourses.2 ⟨c, cc, hcc, rfl, by simp [countP_pos_of_assigned hal]⟩

/-- `parts[partId].status` of a registration of the export, as an i64 (`none` when the registration
    has no record for the part, or no integer `status` in it) -/
def regStatus (reg : J) (partId : Nat) : Option Int :=
  match statusView reg partId with
  | some (some st) => st.bind J.asI64
  | _ => none

theorem participantBase_status {reg : J} {partId : Nat} {isP : Bool} {name : String}
    (h : participantBase reg partId = .ok (isP, name)) :
    isP = (regStatus reg partId == some (Int.ofNat Const.STATUS_PARTICIPANT)) := by
  rw [participantBase_eq_view] at h
  unfold participantBaseV at h
  unfold regStatus
  cases hsv : statusView reg partId with
  | none => rw [hsv] at h; cases h
  | some rp =>
    rw [hsv] at h
    dsimp only at h ⊢
    split at h
    · cases h
    · rename_i isP' hst
      -- the persona part of the parser hands `isP'` through
      obtain rfl : isP' = isP := by
        iterate 3 (split at h; cases h)
        cases h
        rfl
      cases rp with
      | none => cases hst; rfl
      | some st =>
        dsimp only at hst ⊢
        split at hst
        · cases hst
        · rename_i s hs
          cases hst
          rw [hs]
          rfl

/-- `tracks[trackId].course_id` of a registration of the export, as a u64 (`none` when null/absent):
    the course the registration is already assigned to in that track -/
def regCourseId (reg : J) (trackId : Nat) : Option Nat :=
  match trackView reg trackId with
  | some (some (cid, _, _)) => cid.bind J.asU64
  | _ => none

/-- `tracks[trackId].course_instructor` of a registration of the export, as a u64 (`none` when
    null/absent): the course the registration instructs in that track -/
def regInstructorId (reg : J) (trackId : Nat) : Option Nat :=
  match trackView reg trackId with
  | some (some (_, cin, _)) => cin.bind J.asU64
  | _ => none

theorem pcd_fields {reg : J} {trackId : Nat} {co : CoursesOut} {pc : PCData}
    (h : participantCourseData reg trackId co = .ok pc) :
    ((regCourseId reg trackId = none ∧ pc.assigned = none) ∨
      ∃ id, regCourseId reg trackId = some id ∧ courseIndex co id = some pc.assigned) ∧
    ((regInstructorId reg trackId = none ∧ pc.instructed = none) ∨
      ∃ id, regInstructorId reg trackId = some id ∧ courseIndex co id = some pc.instructed) := by
  obtain ⟨cid, cin, chs, arr, h1, h2, h3, -, -⟩ := participantCourseData_ok_iff.1 h
  unfold regCourseId regInstructorId
  rw [h1]
  exact ⟨resolveId_inv h2, resolveId_inv h3⟩

/-- `segments[trackId]` of a course of the export, as a boolean (`none` when the course has no
    boolean member for the track, i.e. is not offered in it): `true` takes place, `false` cancelled -/
def courseSegment (cv : J) (trackId : Nat) : Option Bool :=
  match segView cv trackId with
  | some (some (.bool b)) => some b
  | _ => none

/-- `min_size` of a course of the export, with the default -/
def courseMinSize (cv : J) : Nat := ((cv.get "min_size").bind J.asU64).getD Const.DEFAULT_MIN_SIZE
/-- `max_size` of a course of the export, with the default -/
def courseMaxSize (cv : J) : Nat := ((cv.get "max_size").bind J.asU64).getD Const.DEFAULT_MAX_SIZE

/-- the course is not part of the problem: its `segments` object has no member for the track (not
    offered), or the member is `false` (cancelled) and `--ignore-cancelled` is given -/
def NotKept (o : Opts) (trackId : Nat) (cv : J) : Prop :=
  segView cv trackId = some none ∨ (courseSegment cv trackId = some false ∧ o.ignoreCancelled = true)

/-- `ckv` is the entry of the export's `courses` object with key `cid`; it is offered in the
    selected track (its `segments` object has a boolean member for the track) and, with
    `--ignore-cancelled`, that member is `true` (not cancelled) -/
def CourseNamed (o : Opts) (trackId : Nat) (ckv : String × J) (cid : Nat) : Prop :=
  parseNat ckv.1 = some cid ∧
  ∃ b, courseSegment ckv.2 trackId = some b ∧ (o.ignoreCancelled = true → b = true)

theorem CourseNamed.not_notKept {o : Opts} {trackId : Nat} {ckv : String × J} {cid : Nat}
    (h : CourseNamed o trackId ckv cid) : ¬ NotKept o trackId ckv.2 := by
  obtain ⟨_, b, hs, hb⟩ := h
  rintro (h1 | ⟨h1, h2⟩)
  · unfold courseSegment at hs
    rw [h1] at hs
    cases hs
  · rw [h1] at hs
    cases hs
    cases hb h2

/-- the reader's verdict on a course whose segment member it accepts, read off the export -/
theorem keptStatus_export {o : Opts} {trackId : Nat} {cv : J} {s : CStatus}
    (h : statusOfSeg (segView cv trackId) = some s) :
    (keptStatus o s = true →
      ∃ b, courseSegment cv trackId = some b ∧ (o.ignoreCancelled = true → b = true)) ∧
    (keptStatus o s = false → NotKept o trackId cv) := by
  unfold NotKept courseSegment
  unfold statusOfSeg at h
  split at h
  · rename_i hsv
    cases h
    exact ⟨fun hk => Bool.noConfusion hk, fun _ => .inl hsv⟩
  · rename_i hsv
    cases h
    exact ⟨fun _ => ⟨true, by rw [hsv], fun _ => rfl⟩, fun hk => Bool.noConfusion hk⟩
  · rename_i hsv
    cases h
    rw [hsv]
    exact ⟨fun hk => ⟨false, rfl, fun hi => by simp [keptStatus, hi] at hk⟩,
      fun hk => .inr ⟨rfl, by simpa [keptStatus] using hk⟩⟩
  · cases h

theorem courseEntry_export {trackId : Nat} {o : Opts} {kv : String × J} {e : String × Course}
    (h : courseEntry trackId o kv = some e) :
    CourseNamed o trackId kv e.2.dbid ∧
      e.2.numMin = courseMinSize kv.2 ∧ e.2.numMax = courseMaxSize kv.2 := by
  obtain ⟨cid, nr, sn, s, f, off, hk, _, _, hst, hkept, _, heq, _⟩ := courseEntry_spec h
  rw [heq]
  exact ⟨⟨hk, (keptStatus_export hst).1 hkept⟩, rfl, rfl⟩

theorem courseSkipped_export {trackId : Nat} {o : Opts} {kv : String × J} {id : Nat}
    (h : courseSkipped trackId o kv = some id) :
    parseNat kv.1 = some id ∧ NotKept o trackId kv.2 := by
  obtain ⟨hk, s, hst, hkept⟩ := courseSkipped_spec h
  exact ⟨hk, (keptStatus_export hst).2 hkept⟩

/-- number of ignored (pre-assigned, `--ignore-assigned`) registrations of the export counted for
    course index `c`, as instructors (`asInstr = true`) or attendees (`asInstr = false`) -/
def invCount (o : Opts) (partId trackId : Nat) (co : CoursesOut) (rdata : List (String × J))
    (c : Nat) (asInstr : Bool) : Nat :=
  rdata.countP (fun kv => invisibleIn o.ignoreAssigned c asInstr (toReg partId trackId co kv))

/-- everything a successful `read` ties together: the selection made on the export (`partId`,
    `trackId`, the `courses` / `registrations` objects, the course table `co` of `readCourses`),
    the registration behind each participant index and the course entry behind each course index -/
structure Link (data : J) (o : Opts) (parts : List Part) (courses : List Course) (amb : Ambience)
    (partId trackId : Nat) (cdata rdata : List (String × J)) (co : CoursesOut) : Prop where
  track : ∃ evparts td, eventParts data = some evparts ∧
    findTrack evparts o.track = .ok (partId, trackId, td)
  hcdata : coursesOf data = some cdata
  hrdata : regsOf data = some rdata
  hamb : amb.trackId = trackId
  hco : readCourses cdata trackId o = .ok co
  parsed : ∀ kv ∈ rdata, ∃ rid isP name, parseNat kv.1 = some rid ∧
    participantBase kv.2 partId = .ok (isP, name) ∧
    (isP = true → ∃ pc, participantCourseData kv.2 trackId co = .ok pc)
  part : ∀ (p : Nat) (pp : Part), parts[p]? = some pp →
    ∃ rkv name pc, rkv ∈ rdata ∧ parseNat rkv.1 = some pp.dbid ∧
      participantBase rkv.2 partId = .ok (true, name) ∧
      participantCourseData rkv.2 trackId co = .ok pc ∧
      ¬ (o.ignoreAssigned = true ∧ pc.assigned.isSome = true) ∧
      pp.choices = pc.choices ∧
      ∀ (ci : Nat) (cc : Course), courses[ci]? = some cc → (p ∈ cc.instructors ↔ pc.instructed = some ci)
  course : ∀ (c : Nat) (cc : Course), courses[c]? = some cc →
    ∃ ckv e, ckv ∈ cdata ∧ courseEntry trackId o ckv = some e ∧ co.courses[c]? = some e.2 ∧
      cc.dbid = e.2.dbid ∧
      cc.numMin = e.2.numMin - invCount o partId trackId co rdata c false ∧
      cc.numMax = e.2.numMax - invCount o partId trackId co rdata c false ∧
      cc.fixed = decide (invCount o partId trackId co rdata c true +
                         invCount o partId trackId co rdata c false ≠ 0)

theorem read_link {data : J} {o : Opts} {parts : List Part} {courses : List Course} {amb : Ambience}
    (h : read data o = .ok (parts, courses, amb)) :
    ∃ partId trackId cdata rdata co, Link data o parts courses amb partId trackId cdata rdata co := by
  obtain ⟨evparts, partId, trackId, td, cdata, rdata, co, s, h1, h2, h3, h4, h5, h6, rfl, rfl, h9⟩ :=
    read_inv h
  refine ⟨partId, trackId, cdata, rdata, co, ⟨evparts, td, h1, h2⟩, h3, h5, h9, h4,
    readRegs_all_parsed h6, ?_, ?_⟩
  · -- the registration behind participant `p`: the `p`-th kept entry of `rdata`
    intro p pp hp
    rw [readRegs_parts h6, List.getElem?_map] at hp
    obtain ⟨rkv, hF, rfl⟩ := Option.map_eq_some_iff.1 hp
    obtain ⟨hin, hkeep⟩ := List.mem_filter.1 (List.mem_of_getElem? hF)
    obtain ⟨rid, name, pc, hrid, hb, hpc, hign, htr, hpo⟩ := kept_entry h6 hin hkeep
    rw [hpo]
    refine ⟨rkv, name, pc, hin, hrid, hb, hpc, hign, rfl, fun ci cc hcc => ?_⟩
    · -- position `p` among the kept registrations holds `rkv`
      rw [List.getElem?_map] at hcc
      obtain ⟨c1, hs, rfl⟩ := Option.map_eq_some_iff.1 hcc
      show p ∈ c1.instructors ↔ _
      rw [readRegs_mem_instructors h4 h6 hs p, RD.kept, List.filter_map, Function.comp_def,
        List.getElem?_map, hF]
      simp only [Option.map_some, Option.some.injEq, exists_eq_left', htr]
  · -- the entry behind course `c`: the loop keeps id and sizes of `co.courses[c]`, which comes from
    -- an entry of `cdata` with zero counters, and adds the invisible counts; `adapt` subtracts them
    intro c cc hcc
    rw [List.getElem?_map] at hcc
    obtain ⟨sc, hs, rfl⟩ := Option.map_eq_some_iff.1 hcc
    obtain ⟨_, _, hframe, _⟩ := readRegs_spec h6
    have hfr := congrArg (fun l => l[c]?) hframe
    simp only [List.getElem?_map, hs, Option.map_some] at hfr
    have hinv := (readRegs_invisible h6).1 c
    rw [hs] at hinv
    obtain ⟨c0, h0, hfr⟩ := Option.map_eq_some_iff.1 hfr.symm
    rw [h0] at hinv
    obtain ⟨_, _, hi0, ha0, _⟩ := readCourses_fresh h4 c0 (List.mem_of_getElem? h0)
    obtain ⟨ckv, hckv, e, he, rfl⟩ := mem_courses_of_readCourses h4 (List.mem_of_getElem? h0)
    simp only [courseCore, Prod.mk.injEq] at hfr
    simp only [Option.map_some, Option.some.injEq, invOf, Prod.mk.injEq, hi0, ha0, Nat.zero_add,
      List.countP_map] at hinv
    refine ⟨ckv, e, hckv, he, h0, hfr.1.symm, ?_, ?_, ?_⟩
    · show sc.numMin - sc.invAtt = _; rw [← hfr.2.2.1, hinv.2]; rfl
    · show sc.numMax - sc.invAtt = _; rw [← hfr.2.2.2.1, hinv.2]; rfl
    · show decide (sc.invInstr + sc.invAtt ≠ 0) = _; rw [hinv.1, hinv.2]; rfl

/-- the keys of the export's `courses` object are distinct as parsed numbers. (Not derivable in the
    model: `J.obj` is an arbitrary association list, and even string-distinct keys such as `"7"`
    and `"07"` parse to the same number.) -/
def NodupKeys (data : J) : Prop :=
  ∀ cdata, coursesOf data = some cdata → (courseIds cdata).Nodup

theorem filterMap_inj_of_nodup {α β : Type} {f : α → Option β} {l : List α}
    (hn : (l.filterMap f).Nodup) {a b : α} {x : β} (ha : a ∈ l) (hb : b ∈ l)
    (hfa : f a = some x) (hfb : f b = some x) : a = b := by
  obtain ⟨i, hi, rfl⟩ := List.getElem_of_mem ha
  obtain ⟨j, hj, rfl⟩ := List.getElem_of_mem hb
  -- members at different positions have different images
  have hp := List.pairwise_iff_getElem.1 (List.pairwise_filterMap.1 hn)
  rcases Nat.lt_trichotomy i j with h | rfl | h
  · exact absurd rfl (hp i j hi hj h _ hfa _ hfb)
  · rfl
  · exact absurd rfl (hp j i hj hi h _ hfb _ hfa)

theorem co_dbids_nodup {cdata : List (String × J)} {trackId : Nat} {o : Opts} {co : CoursesOut}
    (h : readCourses cdata trackId o = .ok co) (hn : (courseIds cdata).Nodup) :
    (co.courses.map (·.dbid)).Nodup := by
  -- the id of a kept entry is its parsed key, and the keys are pairwise distinct along `cdata`
  rw [((readCourses_perm h).map (·.dbid)).nodup_iff, List.map_map, List.map_filterMap]
  refine List.pairwise_filterMap.2 ((List.pairwise_filterMap.1 hn).imp fun hne d hd d' hd' => ?_)
  obtain ⟨e, he, rfl⟩ := Option.map_eq_some_iff.1 hd
  obtain ⟨e', he', rfl⟩ := Option.map_eq_some_iff.1 hd'
  exact hne _ (courseEntry_dbid he) _ (courseEntry_dbid he')

theorem nodup_map_getElem?_inj {α β : Type} {f : α → β} {l : List α} (hn : (l.map f).Nodup)
    {i j : Nat} {a b : α} (hi : l[i]? = some a) (hj : l[j]? = some b) (hab : f a = f b) : i = j :=
  (List.getElem?_inj (by rw [List.length_map]; exact (List.getElem?_eq_some_iff.1 hi).1) hn).1
    (by rw [List.getElem?_map, List.getElem?_map, hi, hj, Option.map_some, Option.map_some, hab])

theorem courseIndex_iff_of_nodup {cdata : List (String × J)} {trackId : Nat} {o : Opts} {co : CoursesOut}
    (h : readCourses cdata trackId o = .ok co) (hn : (courseIds cdata).Nodup)
    {c : Nat} {c0 : Course} (hc : co.courses[c]? = some c0) (id : Nat) :
    courseIndex co id = some (some c) ↔ id = c0.dbid := by
  refine ⟨fun hci => courseIndex_dbid hci hc, ?_⟩
  rintro rfl
  have hns : c0.dbid ∉ co.skipped := by
    -- an entry with this key is kept, so the entry with this key is not skipped
    intro hs
    obtain ⟨kv1, hkv1, hs1⟩ := mem_skipped_of_readCourses h hs
    obtain ⟨kv2, hkv2, e, he, rfl⟩ := mem_courses_of_readCourses h (List.mem_of_getElem? hc)
    obtain ⟨hk1, hnk⟩ := courseSkipped_export hs1
    obtain ⟨hnamed, -⟩ := courseEntry_export he
    obtain rfl := filterMap_inj_of_nodup hn hkv1 hkv2 hk1 hnamed.1
    exact hnamed.not_notKept hnk
  obtain ⟨hc', hget⟩ := List.getElem?_eq_some_iff.1 hc
  rw [courseIndex_eq_some_some_iff]
  refine ⟨hns, hc', by rw [hget], ?_⟩
  intro j hjl hj hp
  exact Nat.ne_of_gt hj
    (nodup_map_getElem?_inj (co_dbids_nodup h hn) (List.getElem?_eq_getElem hjl) hc hp)

/-- with distinct keys, the reader resolved the member `fld` (`course_id` / `course_instructor`) to
    index `c` exactly if `fld` is the id of the `c`-th course -/
theorem resolved_beq {cdata : List (String × J)} {trackId : Nat} {o : Opts} {co : CoursesOut}
    (h : readCourses cdata trackId o = .ok co) (hn : (courseIds cdata).Nodup)
    {c : Nat} {c0 : Course} (hc : co.courses[c]? = some c0) {fld r : Option Nat}
    (hf : (fld = none ∧ r = none) ∨ ∃ id, fld = some id ∧ courseIndex co id = some r) :
    decide (r = some c) = (fld == some c0.dbid) := by
  rcases hf with ⟨f1, f2⟩ | ⟨id, f1, f2⟩
  · rw [f1, f2]; rfl
  · rw [f1, Bool.eq_iff_iff, decide_eq_true_iff, beq_iff_eq, Option.some.injEq,
      ← courseIndex_iff_of_nodup h hn hc id, f2, Option.some.injEq]

/-- `rkv` is the entry of the export's `registrations` object with key `rid`; it has status
    participant in the selected part; and, with `--ignore-assigned`, it is not pre-assigned to a
    kept course: its `course_id` in the selected track, if any, names a course of the export that
    is not offered in the track or is cancelled-and-ignored -/
def RegNamed (o : Opts) (partId trackId : Nat) (cdata : List (String × J)) (rkv : String × J)
    (rid : Nat) : Prop :=
  parseNat rkv.1 = some rid ∧
  regStatus rkv.2 partId = some (Int.ofNat Const.STATUS_PARTICIPANT) ∧
  (o.ignoreAssigned = true → ∀ id, regCourseId rkv.2 trackId = some id →
    ∃ ckv ∈ cdata, parseNat ckv.1 = some id ∧ NotKept o trackId ckv.2)

/-- the registration's `choices` array for the selected track contains `cid`, or its
    `course_instructor` is `cid` -/
def ChoseOrInstructs (trackId : Nat) (reg : J) (cid : Nat) : Prop :=
  (∃ ids : List Nat, choicesArr reg trackId = some (ids.map (fun id => J.num (.pos id))) ∧ cid ∈ ids) ∨
  regInstructorId reg trackId = some cid

/-- on the export: a registration with status participant in the selected part whose `course_id`
    in the selected track is `cid` and whose `course_instructor` is (`asInstr = true`) / is not
    (`asInstr = false`) `cid` — a pre-assigned instructor / attendee of course `cid` -/
def preAssigned (partId trackId cid : Nat) (asInstr : Bool) (kv : String × J) : Bool :=
  (regStatus kv.2 partId == some (Int.ofNat Const.STATUS_PARTICIPANT)) &&
  (regCourseId kv.2 trackId == some cid) &&
  ((regInstructorId kv.2 trackId == some cid) == asInstr)

/-- the number of registrations of the export that the reader ignored as pre-assigned
    instructors (`asInstr = true`) / attendees (`asInstr = false`) of the course with key `cid`:
    zero without `--ignore-assigned` -/
def ignoredCount (o : Opts) (partId trackId : Nat) (rdata : List (String × J)) (cid : Nat)
    (asInstr : Bool) : Nat :=
  if o.ignoreAssigned = true then rdata.countP (preAssigned partId trackId cid asInstr) else 0

/-- what `read` selected on the export: the part and track `findTrack` chose among `event.parts`,
    the `courses` and `registrations` objects, and the track id handed to the writer (the import
    file names registration tracks only under `amb.trackId`) -/
structure Selected (data : J) (o : Opts) (amb : Ambience) (partId trackId : Nat)
    (cdata rdata : List (String × J)) : Prop where
  track : ∃ evparts td, eventParts data = some evparts ∧
    findTrack evparts o.track = .ok (partId, trackId, td)
  courses : coursesOf data = some cdata
  regs : regsOf data = some rdata
  written : amb.trackId = trackId

section Clauses
variable {data : J} {o : Opts} {parts : List Part} {courses : List Course} {amb : Ambience}
  {partId trackId : Nat} {cdata rdata : List (String × J)} {co : CoursesOut}

theorem Link.selected (L : Link data o parts courses amb partId trackId cdata rdata co) :
    Selected data o amb partId trackId cdata rdata :=
  ⟨L.track, L.hcdata, L.hrdata, L.hamb⟩

theorem Link.courseNamed (L : Link data o parts courses amb partId trackId cdata rdata co)
    {c : Nat} {cc : Course} (hcc : courses[c]? = some cc) :
    ∃ ckv ∈ cdata, CourseNamed o trackId ckv cc.dbid ∧
      (∀ id, courseIndex co id = some (some c) → id = cc.dbid) ∧
      cc.numMin = courseMinSize ckv.2 - invCount o partId trackId co rdata c false ∧
      cc.numMax = courseMaxSize ckv.2 - invCount o partId trackId co rdata c false ∧
      cc.fixed = decide (invCount o partId trackId co rdata c true +
                         invCount o partId trackId co rdata c false ≠ 0) := by
  obtain ⟨ckv, e, k1, k2, k3, k4, k5, k6, k7⟩ := L.course c cc hcc
  obtain ⟨e1, e4, e5⟩ := courseEntry_export k2
  exact ⟨ckv, k1, k4 ▸ e1, fun id hid => k4 ▸ courseIndex_dbid hid k3, by rw [k5, e4], by rw [k6, e5],
    k7⟩

/-- clauses (a), (b), (c) of `Props.C05_consistent` for one entry of the registrations object -/
theorem Link.regs_entry (L : Link data o parts courses amb partId trackId cdata rdata co)
    {al : List (Option Nat)}
    (hok : HardOK (toInst parts courses) (ofList al)) {rid cid : Nat}
    (h : (rid, cid) ∈ writeRegs parts courses al) :
    ∃ rkv ∈ rdata, ∃ ckv ∈ cdata,
      RegNamed o partId trackId cdata rkv rid ∧ CourseNamed o trackId ckv cid ∧
      (cid, true) ∈ writeCourses courses al ∧ ChoseOrInstructs trackId rkv.2 cid := by
  obtain ⟨p, pp, c, cc, hpp, hal, hcc, hpP, rfl, rfl⟩ := mem_writeRegs_of_hardOK hok h
  obtain ⟨rkv, name, pc, r1, r2, r3, r4, r5, r6, r7⟩ := L.part p pp hpp
  obtain ⟨ckv, k1, k5, kid, _⟩ := L.courseNamed hcc
  obtain ⟨fa, fi⟩ := pcd_fields r4
  refine ⟨rkv, r1, ckv, k1, ⟨r2, eq_of_beq (participantBase_status r3).symm, ?_⟩, k5, ?_, ?_⟩
  · -- not pre-assigned to a kept course: the reader resolved `course_id` to nothing, so it is the
    -- key of a skipped entry
    intro hia id hid
    have hnone : pc.assigned = none := Option.not_isSome_iff_eq_none.1 fun hs => r5 ⟨hia, hs⟩
    -- with these two values only `courseIndex co id = some none` is left of `fa`
    rw [hid, hnone] at fa
    obtain ⟨⟨⟩, _⟩ | ⟨_, ⟨⟩, f2⟩ := fa
    rw [courseIndex_eq_some_none_iff] at f2
    obtain ⟨ckv', hm', hs'⟩ := mem_skipped_of_readCourses L.hco f2
    exact ⟨ckv', hm', courseSkipped_export hs'⟩
  · exact mem_writeCourses_of_mem_writeRegs hok h
  · -- chosen or instructed, on the export
    rcases hok.instructs_or_chose hpP (ofList_eq_some.2 hal) with hin | hch
    · right
      rw [(r7 c cc hcc).1 ((toInst_instructs parts p hcc).1 hin)] at fi
      obtain ⟨_, ⟨⟩⟩ | ⟨id, f1, f2⟩ := fi
      rw [f1, kid id f2]
    · left
      obtain ⟨pen, hpen⟩ := (toInst_chose courses c hpp).1 hch
      rw [r6] at hpen
      obtain ⟨ids, harr, hmem, _⟩ := pcd_choices_mem r4
      obtain ⟨id, hid, hci⟩ := (hmem c pen).1 hpen
      refine ⟨ids, harr, ?_⟩
      rw [← kid id hci]
      exact List.mem_of_getElem? hid

/-- clauses (d) of `Props.C05_consistent` and (f) of `Props.C11_consistent` for the `c`-th entry of the
    courses object, the ignored people counted through the reader's course table -/
theorem Link.courses_entry (L : Link data o parts courses amb partId trackId cdata rdata co)
    {al : List (Option Nat)} (hlen : al.length = parts.length)
    (hok : HardOK (toInst parts courses) (ofList al)) {c cid : Nat} {b : Bool}
    (h : (writeCourses courses al)[c]? = some (cid, b)) :
    ∃ ckv ∈ cdata, CourseNamed o trackId ckv cid ∧
      (b = true ↔ takesPlace (toInst parts courses) (ofList al) c) ∧
      (b = true → courseMinSize ckv.2 ≤
        attendees (toInst parts courses) (ofList al) c + invCount o partId trackId co rdata c false) ∧
      (attendees (toInst parts courses) (ofList al) c = 0 ∨
        attendees (toInst parts courses) (ofList al) c + invCount o partId trackId co rdata c false
          ≤ courseMaxSize ckv.2) ∧
      (invCount o partId trackId co rdata c true + invCount o partId trackId co rdata c false ≠ 0 →
        ((toInst parts courses).course c).fixed = true ∧ b = true) := by
  obtain ⟨cc, hcc, rfl, rfl⟩ := writeCourses_getElem?_eq_some.1 h
  obtain ⟨ckv, k1, k5, _, k6, k7, k8⟩ := L.courseNamed hcc
  have htp := takesPlace_toInst hlen hcc
  have hcC : c < (toInst parts courses).C := by
    rw [toInst_C]; exact (List.getElem?_eq_some_iff.1 hcc).1
  have hco := toInst_course parts hcc
  refine ⟨ckv, k1, k5, htp.symm, ?_, ?_, ?_⟩
  · intro hbt
    have hmin := hok.min c hcC (htp.2 hbt)
    rw [hco, k6] at hmin
    exact Nat.sub_le_iff_le_add.1 hmin
  · by_cases ht : takesPlace (toInst parts courses) (ofList al) c
    · have hmax := hok.max c hcC ht
      rw [hco, k7] at hmax
      exact eq_zero_or_add_le_of_le_sub hmax
    · exact Or.inl (attendees_zero_of_not_takesPlace ht)
  · intro hne
    have hfx : cc.fixed = true := by rw [k8]; exact decide_eq_true hne
    exact ⟨by rw [hco]; exact hfx, by rw [hfx, Bool.or_true]⟩

theorem Link.written_kept (L : Link data o parts courses amb partId trackId cdata rdata co)
    (hn : (courseIds cdata).Nodup) {al : List (Option Nat)} {cid : Nat} {b : Bool}
    (hw : (cid, b) ∈ writeCourses courses al) {ckv : String × J} (hm : ckv ∈ cdata)
    (hk : parseNat ckv.1 = some cid) : ¬ NotKept o trackId ckv.2 := by
  obtain ⟨c, cc, hcc, rfl, _⟩ := mem_writeCourses.1 hw
  obtain ⟨ckv', hm', hnamed, _⟩ := L.courseNamed hcc
  obtain rfl := filterMap_inj_of_nodup hn hm hm' hk hnamed.1
  exact hnamed.not_notKept

theorem Link.written_once (L : Link data o parts courses amb partId trackId cdata rdata co)
    (hn : (courseIds cdata).Nodup) {al : List (Option Nat)} {cid : Nat} {b b' : Bool}
    (h : (cid, b) ∈ writeCourses courses al) (h' : (cid, b') ∈ writeCourses courses al) : b = b' := by
  obtain ⟨c, cc, hcc, rfl, rfl⟩ := mem_writeCourses.1 h
  obtain ⟨c', cc', hcc', hd, rfl⟩ := mem_writeCourses.1 h'
  -- the two entries come from the same position of `co.courses`: database ids are distinct there
  obtain ⟨_, e, _, _, k3, k4, _⟩ := L.course c cc hcc
  obtain ⟨_, e', _, _, k3', k4', _⟩ := L.course c' cc' hcc'
  obtain rfl := nodup_map_getElem?_inj (co_dbids_nodup L.hco hn) k3 k3' (by rw [← k4, ← k4', hd])
  rw [hcc] at hcc'
  cases hcc'
  rfl

/-- with `--ignore-assigned`, a participant counts for course `ci` exactly if it is assigned to `ci`:
    that `isIgnored` asks for `assigned.isSome` adds nothing -/
theorem invisibleIn_mk (rid ci : Nat) (b : Bool) (a ins : Option Nat) (chs : List (Nat × Nat)) :
    invisibleIn true ci b ⟨rid, true, a, ins, chs⟩ =
      (decide (a = some ci) && (decide (ins = some ci) == b)) := by
  cases a <;> simp [invisibleIn, isIgnored, RD.ignored]

theorem Link.invCount_eq (L : Link data o parts courses amb partId trackId cdata rdata co)
    (hn : (courseIds cdata).Nodup) {c : Nat} {cc : Course} (hcc : courses[c]? = some cc) (b : Bool) :
    invCount o partId trackId co rdata c b = ignoredCount o partId trackId rdata cc.dbid b := by
  unfold invCount ignoredCount
  cases hia : o.ignoreAssigned with
  | false =>
    rw [if_neg Bool.false_ne_true, List.countP_eq_zero]
    intro kv _
    simp [invisibleIn, isIgnored, RD.ignored]
  | true =>
    rw [if_pos rfl]
    refine List.countP_congr fun kv hkv => ?_
    obtain ⟨_, e, _, _, k3, k4, _⟩ := L.course c cc hcc
    obtain ⟨rid, isP, name, _, hb, hpc⟩ := L.parsed kv hkv
    -- the three factors of `preAssigned`, one by one, are those of `invisibleIn` on the typed view
    rw [preAssigned, ← participantBase_status hb, k4]
    cases isP with
    | false => rw [toReg_notP trackId co hb]; exact Iff.rfl
    | true =>
      obtain ⟨pc, hpc⟩ := hpc rfl
      obtain ⟨fa, fi⟩ := pcd_fields hpc
      rw [toReg_ok hb hpc, invisibleIn_mk, resolved_beq L.hco hn k3 fa, resolved_beq L.hco hn k3 fi,
        Bool.true_and]

end Clauses

namespace Ex
def event : J :=
  .obj [("parts", .obj [("1", .obj [("tracks", .obj [("3", .obj [("shortname", .str "T")])])])])]

/-- track 3, `--ignore-cancelled`, `--ignore-assigned` -/
def opts : Opts :=
  { track := some 3, ignoreCancelled := true, ignoreAssigned := true, factorField := none, offsetField := none }

/-- course 7 takes place in track 3 (sizes 2..3), course 8 is cancelled in track 3, course 9 is only
    offered in track 4 -/
def cdata : List (String × J) :=
  [("7", .obj [("fields", .obj []), ("max_size", .num (.pos 3)), ("min_size", .num (.pos 2)), ("nr", .str "1"),
      ("segments", .obj [("3", .bool true), ("4", .bool true)]), ("shortname", .str "x")]),
   ("8", .obj [("fields", .obj []), ("nr", .str "2"),
      ("segments", .obj [("3", .bool false)]), ("shortname", .str "y")]),
   ("9", .obj [("fields", .obj []), ("nr", .str "3"),
      ("segments", .obj [("4", .bool true)]), ("shortname", .str "z")])]

def reg (status : Nat) (choices : List Nat) (courseId instr : J) : J :=
  .obj [("parts", .obj [("1", .obj [("status", .num (.pos status))])]),
        ("persona", .obj [("family_name", .str "F"), ("given_names", .str "G")]),
        ("tracks", .obj [("3", .obj [("choices", .arr (choices.map (fun c => .num (.pos c)))),
                                     ("course_id", courseId), ("course_instructor", instr)])])]

/-- 100: participant choosing 8 (cancelled) then 7; 101: participant pre-assigned to 7 (ignored);
    102: not a participant (status 1); 103: participant instructing 7, no choices -/
def rdata : List (String × J) :=
  [("100", reg 2 [8, 7] .null .null),
   ("101", reg 2 [7] (.num (.pos 7)) .null),
   ("102", reg 1 [7] .null .null),
   ("103", reg 2 [] .null (.num (.pos 7)))]

def doc : J := .obj [
  ("EVENT_SCHEMA_VERSION", .arr [.num (.pos 17), .num (.pos 0)]),
  ("courses", .obj cdata),
  ("event", event),
  ("id", .num (.pos 1)),
  ("kind", .str "partial"),
  ("registrations", .obj rdata),
  ("timestamp", .str "2024-01-01T00:00:00+00:00")]

def course7 (instructors : List Nat) (hidden : List String) (mn mx invAtt : Nat) (fixed : Bool) : Course :=
  { dbid := 7, name := "1. x", numMin := mn, numMax := mx, instructors := instructors,
    factor := .dflt, offset := .dflt, fixed := fixed, hidden := hidden, invInstr := 0, invAtt := invAtt }

def parts : List Part := [⟨100, "G F", [(0, 1)]⟩, ⟨103, "G F", []⟩]
def courses : List Course := [course7 [1] ["G F"] 1 2 1 true]
def amb : Ambience :=
  { eventId := 1, trackId := 3, external := some (0, [0]), trackName := some "T",
    ignoredCourses := some 1, ignoredRegs := some 1 }

theorem readCourses_eq :
    readCourses cdata 3 opts = .ok ⟨[course7 [] [] 2 3 0 false], [8, 9], 1⟩ := by
  have hg : readCourses.go 3 opts [] [] 0 cdata =
      .ok ([(sortKey "1", course7 [] [] 2 3 0 false)], [8, 9], 1) := by rfl
  unfold readCourses
  rw [hg]
  simp only [List.mergeSort_singleton, List.map_cons, List.map_nil]

theorem readRegs_eq : readRegs rdata 1 3 [("shortname", .str "T")]
      ⟨[course7 [] [] 2 3 0 false], [8, 9], 1⟩ opts =
      .ok { i := 2, parts := parts, courses := [course7 [1] ["G F"] 2 3 1 false], extInstr := 0,
            extPen := [0], numIgnored := 1 } := by rfl

theorem read_eq : read doc opts = .ok (parts, courses, amb) :=
  read_ok_iff.2 ⟨"2024-01-01T00:00:00+00:00", _, _, 1, 3, _, cdata, _, rdata, _, 1, "T",
    rfl, rfl, by decide +kernel, rfl, rfl, rfl, rfl, readCourses_eq, rfl, readRegs_eq, rfl, rfl, rfl⟩

example : ∃ partId trackId cdata rdata co,
    Link doc opts parts courses amb partId trackId cdata rdata co :=
  read_link read_eq

/-- the assignment: both participants go to course 7 (index 0) -/
def al : List (Option Nat) := [some 0, some 0]

theorem hardOK : HardOK (toInst parts courses) (fun p => al.getD p none) := by
  -- two participants, one course; both participants go to course 0
  have ha : ∀ p, p < 2 → al.getD p none = some 0 := by decide
  have h0 : ∀ c, c < 1 → c = 0 := fun _ => Nat.lt_one_iff.1
  have h2 : ∀ p, p < 2 → p = 0 ∨ p = 1 := by omega
  refine ⟨fun p hp c hc => ?_, fun c hc _ i hi _ => ?_, fun c hc _ => ?_, fun c hc _ => ?_,
    fun p hp hch _ => ?_, fun p hp hch c hc => ?_⟩
  · cases (ha p hp).symm.trans hc
    decide
  · obtain rfl := h0 c hc
    exact ha i hi
  · obtain rfl := h0 c hc
    decide
  · obtain rfl := h0 c hc
    decide
  · obtain rfl | rfl := h2 p hp
    · exact ⟨⟨0, 1⟩, List.mem_singleton.2 rfl, rfl⟩
    · exact absurd hch (by decide)
  · obtain rfl | rfl := h2 p hp
    · exact absurd hch (by decide)
    · cases (ha 1 (by decide)).symm.trans hc
      decide

theorem nodupKeys : NodupKeys doc := by
  intro cd h
  have h7 : coursesOf doc = some cdata := rfl
  rw [h7] at h
  cases h
  decide +kernel

end Ex

end CD

#print axioms N2.G.HardOK.instructs_or_chose
#print axioms CD.read_link
#print axioms CD.Link.regs_entry
#print axioms CD.Link.courses_entry
#print axioms CD.Link.invCount_eq
#print axioms CD.Ex.read_eq
#print axioms CD.Ex.hardOK
#print axioms CD.Ex.nodupKeys
