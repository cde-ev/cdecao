import Cdecao.Model.NodeS
import Cdecao.Proofs.HungProof
import Cdecao.Proofs.RoomGate
/-! What each stage of `runNodeS` tells when it answers: the early exits (`guards_eq_none_iff`, `guards_eq_ok`,
    `guards_eq_error`), the two stages after the matching (`roomStage`, `feasStage`), the node as a whole
    (`runNodeS_ok`), the room check (`checkRoom_eq_ok`, `checkRoom_sets`) and the feasibility check
    (`checkFeas_cases`, `checkFeas_eq_ok`).
    Proofs about the node model start from these. The control flow of the node model is unfolded only here, with
    these exceptions: totality of the room check (`checkRoom_ok` in NodeTotal walks `checkRoom` once more) and the
    congruence lemmas for instances without a room list (NodeDecide, RoomsNonbinding). -/
namespace N2
open H2

theorem ite_eq_cases {α} {c : Prop} [Decidable c] {x y r : α} :
    (if c then x else y) = r ↔ c ∧ x = r ∨ ¬ c ∧ y = r := by
  by_cases h : c
  · rw [if_pos h]; exact ⟨fun h' => .inl ⟨h, h'⟩, fun h' => h'.elim (·.2) (fun h'' => absurd h h''.1)⟩
  · rw [if_neg h]; exact ⟨fun h' => .inr ⟨h, h'⟩, fun h' => h'.elim (fun h'' => absurd h''.1 h) (·.2)⟩

/-- the node passes all early exits: the eight conditions of `guards`, negated, in their order
    (`choice`: every active participant has a choice that is not cancelled; `mand`: no mandatory column is
    skipped) -/
structure GuardsPass (I : Inst) (nd : Node) : Prop where
  pre : I.precomputeOk = true
  canc : ∀ c ∈ nd.cancelled, c < I.C
  enf : ∀ c ∈ nd.enforced, c < I.C
  shr : ∀ cs ∈ nd.shrinked, cs.1 < I.C
  enfSum : nd.enforced.foldl (fun acc c => acc + (I.course c).numMin) 0 ≤ I.P - numSkipX I nd
  places : I.P - numSkipX I nd ≤ (List.range I.C).foldl (fun acc c => acc + effMax I nd c) 0
  choice : ∀ x, x < I.P → skipXBase I nd x = false →
    ¬ ∀ ch ∈ (I.part x).choices, nd.cancelled.contains ch.course = true
  under : I.m + numSkipX I nd ≤ I.n + numSkipY I nd
  fit : I.P + (I.n - I.m + numSkipY I nd - numSkipX I nd) ≤ I.n
  mand : ∀ cp, cp < I.m → mandY I nd cp = true → skipY I nd cp = false

theorem guards_eq_none_iff (I : Inst) (nd : Node) : guards I nd = none ↔ GuardsPass I nd := by
  unfold guards
  simp only [ite_eq_cases, reduceCtorEq, and_false, false_or, and_true, Bool.not_eq_true', Bool.not_eq_false,
    Bool.and_eq_true, List.all_eq_true, decide_eq_true_eq, List.any_eq_true, List.mem_range, not_exists, not_and,
    Bool.not_eq_true, Nat.not_lt]
  exact ⟨fun ⟨h1, ⟨⟨h2, h3⟩, h4⟩, h5, h6, h7, h8, h9, h10⟩ => ⟨h1, h2, h3, h4, h5, h6, h7, h8, h9, h10⟩,
    fun h => ⟨h.pre, ⟨⟨h.canc, h.enf⟩, h.shr⟩, h.enfSum, h.places, h.choice, h.under, h.fit, h.mand⟩⟩

/-- an early exit that is not a panic says "no solution", for one of three reasons: too many enforced places,
    too few places, an active participant whose choices are all cancelled -/
theorem guards_eq_ok {I : Inst} {nd : Node} {r : Res} (h : guards I nd = some (.ok r)) :
    r = .noSol ∧
      (I.P - numSkipX I nd < nd.enforced.foldl (fun acc c => acc + (I.course c).numMin) 0 ∨
       (List.range I.C).foldl (fun acc c => acc + effMax I nd c) 0 < I.P - numSkipX I nd ∨
       ∃ x, x < I.P ∧ skipXBase I nd x = false ∧
         ∀ ch ∈ (I.part x).choices, nd.cancelled.contains ch.course = true) := by
  unfold guards at h
  simp only [ite_eq_cases, Option.some.injEq, Except.ok.injEq, reduceCtorEq, and_false, false_or, or_false] at h
  rcases h with ⟨-, -, ⟨h, rfl⟩ | ⟨-, ⟨h, rfl⟩ | ⟨-, h, rfl⟩⟩⟩
  · exact ⟨rfl, .inl h⟩
  · exact ⟨rfl, .inr (.inl h)⟩
  · simp only [List.any_eq_true, List.mem_range, Bool.and_eq_true, Bool.not_eq_true', List.all_eq_true] at h
    exact ⟨rfl, .inr (.inr h)⟩

/-- a panic among the early exits: an index of the instance or of the node out of range, or (there being enough
    places) a wrong number of dummy rows or a mandatory column that is skipped -/
theorem guards_eq_error {I : Inst} {nd : Node} {e : String} (h : guards I nd = some (.error e)) :
    I.precomputeOk = false ∨
    ¬ ((∀ c ∈ nd.cancelled, c < I.C) ∧ (∀ c ∈ nd.enforced, c < I.C) ∧ ∀ cs ∈ nd.shrinked, cs.1 < I.C) ∨
    (I.P - numSkipX I nd ≤ (List.range I.C).foldl (fun acc c => acc + effMax I nd c) 0 ∧
      (I.n + numSkipY I nd < I.m + numSkipX I nd ∨
       I.n < I.P + (I.n - I.m + numSkipY I nd - numSkipX I nd) ∨
       ∃ cp, cp < I.m ∧ mandY I nd cp = true ∧ skipY I nd cp = true)) := by
  unfold guards at h
  simp only [ite_eq_cases, Option.some.injEq, reduceCtorEq, and_false, false_or, or_false] at h
  rcases h with ⟨h, -⟩ | ⟨-, ⟨h, -⟩ | ⟨-, -, hpl, -, ⟨h, -⟩ | ⟨-, ⟨h, -⟩ | ⟨-, h, -⟩⟩⟩⟩
  · exact .inl (by simpa using h)
  · refine .inr (.inl fun hall => ?_)
    simp only [Bool.not_eq_true', Bool.and_eq_false_iff, List.all_eq_false, decide_eq_true_eq] at h
    rcases h with (⟨c, hc, hn⟩ | ⟨c, hc, hn⟩) | ⟨c, hc, hn⟩
    · exact hn (hall.1 c hc)
    · exact hn (hall.2.1 c hc)
    · exact hn (hall.2.2 c hc)
  · exact .inr (.inr ⟨Nat.not_lt.1 hpl, .inl h⟩)
  · exact .inr (.inr ⟨Nat.not_lt.1 hpl, .inr (.inl h)⟩)
  · simp only [List.any_eq_true, List.mem_range, Bool.and_eq_true] at h
    exact .inr (.inr ⟨Nat.not_lt.1 hpl, .inr (.inr h)⟩)

/-- the assignment `post` materialises -/
def asgOf (I : Inst) (nd : Node) (mm : Vec Nat) : Nat → Option Nat := (Vec.tab I.P (assign I nd mm.get)).get

/-- the instructor bonus `post` adds to the matching score -/
def bonusOf (I : Inst) (nd : Node) : Nat :=
  (List.range I.C).foldl (fun acc c =>
    if nd.cancelled.contains c then acc
    else acc + WEIGHT * ((I.course c).instructors.countP (fun i => !I.instructorOnly i))) 0

/-- the child a room constraint set stands for -/
def roomKid (nd : Node) (r : RCS) : Node :=
  { nd with shrinked := nd.shrinked ++ r.shrink, cancelled := nd.cancelled ++ r.cancel }

/-- the children of the feasibility stage: enforce (unless the problem is a participant in a course they
    did not choose) or cancel (unless fixed) the course it names -/
def feasKids (I : Inst) (nd : Node) (pprob : Bool) : Option Nat → List Node
  | none => []
  | some c =>
    (if pprob then [] else [{ nd with enforced := nd.enforced ++ [c] }]) ++
    (if (I.course c).fixed then [] else [{ nd with cancelled := nd.cancelled ++ [c] }])

theorem mem_feasKids {I : Inst} {nd : Node} {pprob : Bool} {c : Nat} {k : Node} :
    k ∈ feasKids I nd pprob (some c) ↔
      (pprob = false ∧ k = { nd with enforced := nd.enforced ++ [c] }) ∨
      ((I.course c).fixed = false ∧ k = { nd with cancelled := nd.cancelled ++ [c] }) := by
  cases pprob <;> cases h : (I.course c).fixed <;> simp [feasKids, h]

theorem asgOf_eq (I : Inst) (nd : Node) (mm : Vec Nat) {p : Nat} (hp : p < I.P) :
    asgOf I nd mm p = assign I nd mm.get p := by
  rw [asgOf, Vec.get_tab, if_pos hp]

theorem roomSizes_none {I : Inst} (h : I.rooms = none) : I.roomSizes = none := by
  rw [Inst.roomSizes, h]; rfl

theorem roomStage_eq_none_iff {I : Inst} {R : RoomFns} {nd : Node} {a : Nat → Option Nat} {s : Nat} :
    roomStage I R nd a s = .ok none ↔
      ∀ rooms, I.roomSizes = some rooms → ∃ sets, checkRoom I R nd a rooms = .ok (true, sets) := by
  unfold roomStage
  cases I.roomSizes with
  | none => simp
  | some rooms =>
    cases hcr : checkRoom I R nd a rooms with
    | error e => simp [hcr]
    | ok bs => obtain ⟨_ | _, sets⟩ := bs <;> simp [hcr]

theorem roomStage_eq_some_iff {I : Inst} {R : RoomFns} {nd : Node} {a : Nat → Option Nat} {s : Nat} {r : Res} :
    roomStage I R nd a s = .ok (some r) ↔ ∃ rooms sets, I.roomSizes = some rooms ∧
      checkRoom I R nd a rooms = .ok (false, sets) ∧ r = .infeasible (sets.map (roomKid nd)) s := by
  unfold roomStage
  cases I.roomSizes with
  | none => simp
  | some rooms =>
    cases hcr : checkRoom I R nd a rooms with
    | error e => simp [hcr]
    | ok bs =>
      obtain ⟨_ | _, sets⟩ := bs
      · simp [hcr, eq_comm]; rfl
      · simp [hcr]

theorem feasStage_eq_ok_iff {I : Inst} {nd : Node} {a : Nat → Option Nat} {s : Nat} {r : Res} :
    feasStage I nd a s = .ok r ↔ ∃ b pprob bc, checkFeas I nd a (nodeInp I nd).skipx.get = .ok (b, pprob, bc) ∧
      r = if b then .feasible ((List.range I.P).map a) s else .infeasible (feasKids I nd pprob bc) s := by
  unfold feasStage
  cases checkFeas I nd a (nodeInp I nd).skipx.get with
  | error e => exact ⟨fun h => (nomatch h), fun ⟨_, _, _, h, _⟩ => (nomatch h)⟩
  | ok x =>
    obtain ⟨_ | _, pprob, bc⟩ := x
    · exact ⟨fun h => by cases h; exact ⟨_, _, _, rfl, by cases bc <;> rfl⟩,
        fun ⟨_, _, _, h, h'⟩ => by cases h; rw [h']; cases bc <;> rfl⟩
    · exact ⟨fun h => by cases h; exact ⟨_, _, _, rfl, rfl⟩, fun ⟨_, _, _, h, h'⟩ => by cases h; rw [h']; rfl⟩

theorem post_eq (I : Inst) (R : RoomFns) (nd : Node) (mm : Vec Nat) (sc : Int) :
    post I R nd mm sc =
      match roomStage I R nd (asgOf I nd mm) (sc.toNat + bonusOf I nd) with
      | .error e => .error e
      | .ok (some r) => .ok r
      | .ok none => feasStage I nd (asgOf I nd mm) (sc.toNat + bonusOf I nd) := rfl

theorem post_eq_ok_iff {I : Inst} {R : RoomFns} {nd : Node} {mm : Vec Nat} {sc : Int} {r : Res} :
    post I R nd mm sc = .ok r ↔
      roomStage I R nd (asgOf I nd mm) (sc.toNat + bonusOf I nd) = .ok (some r) ∨
      (roomStage I R nd (asgOf I nd mm) (sc.toNat + bonusOf I nd) = .ok none ∧
        feasStage I nd (asgOf I nd mm) (sc.toNat + bonusOf I nd) = .ok r) := by
  rw [post_eq]
  cases roomStage I R nd (asgOf I nd mm) (sc.toNat + bonusOf I nd) with
  | error e => simp
  | ok o => cases o <;> simp

theorem runNodeS_eq_ok_iff {I : Inst} {R : RoomFns} {nd : Node} {r : Res} :
    runNodeS I R nd = .ok r ↔ guards I nd = some (.ok r) ∨
      (guards I nd = none ∧ ∃ mm sc, H2.run (nodeInp I nd) = some (mm, sc) ∧ post I R nd mm sc = .ok r) := by
  unfold runNodeS
  cases guards I nd with
  | some x => exact ⟨fun h => .inl (congrArg some h), fun h => h.elim (fun h => by cases h; rfl) (fun h => (nomatch h.1))⟩
  | none =>
    dsimp only
    cases H2.run (nodeInp I nd) with
    | none => exact ⟨fun h => (nomatch h), fun h => h.elim (fun h => (nomatch h)) (fun ⟨_, _, _, h, _⟩ => (nomatch h))⟩
    | some x =>
      obtain ⟨mm, sc⟩ := x
      exact ⟨fun h => .inr ⟨rfl, mm, sc, rfl, h⟩,
        fun h => h.elim (fun h => (nomatch h)) (fun ⟨_, _, _, h, h'⟩ => by cases h; exact h')⟩

/-- What a node's answer tells: "no solution" comes from an early exit; otherwise the node passed them,
    the matching ran, and the answer is a room branching, a feasible solution or a feasibility branching
    on the materialised assignment. -/
theorem runNodeS_ok {I : Inst} {R : RoomFns} {nd : Node} {r : Res} (h : runNodeS I R nd = .ok r) :
    (guards I nd = some (.ok .noSol) ∧ r = .noSol) ∨
    ∃ mm hsc, GuardsPass I nd ∧ H2.run (nodeInp I nd) = some (mm, hsc) ∧
      ((∃ rooms sets, I.roomSizes = some rooms ∧
          checkRoom I R nd (asgOf I nd mm) rooms = .ok (false, sets) ∧
          r = .infeasible (sets.map (roomKid nd)) (hsc.toNat + bonusOf I nd)) ∨
       ((∀ rooms, I.roomSizes = some rooms → ∃ sets, checkRoom I R nd (asgOf I nd mm) rooms = .ok (true, sets)) ∧
        ∃ b pprob bc, checkFeas I nd (asgOf I nd mm) (nodeInp I nd).skipx.get = .ok (b, pprob, bc) ∧
          r = if b then .feasible ((List.range I.P).map (asgOf I nd mm)) (hsc.toNat + bonusOf I nd)
              else .infeasible (feasKids I nd pprob bc) (hsc.toNat + bonusOf I nd))) := by
  rcases runNodeS_eq_ok_iff.1 h with hg | ⟨hg, mm, hsc, hrun, hp⟩
  · cases (guards_eq_ok hg).1
    exact .inl ⟨hg, rfl⟩
  · refine .inr ⟨mm, hsc, (guards_eq_none_iff I nd).1 hg, hrun, ?_⟩
    rcases post_eq_ok_iff.1 hp with hr | ⟨hr, hf⟩
    · exact .inl (roomStage_eq_some_iff.1 hr)
    · exact .inr ⟨roomStage_eq_none_iff.1 hr, feasStage_eq_ok_iff.1 hf⟩

theorem runNodeS_noSol {I : Inst} {R : RoomFns} {nd : Node} (h : runNodeS I R nd = .ok .noSol) :
    guards I nd = some (.ok .noSol) := by
  rcases runNodeS_ok h with ⟨hg, -⟩ | ⟨_, _, -, -, ⟨_, _, -, -, h⟩ | ⟨-, b, _, _, -, h⟩⟩
  · exact hg
  · cases h
  · cases b <;> cases h

theorem runNodeS_feasible {I : Inst} {R : RoomFns} {nd : Node} {al : List (Option Nat)} {sc : Nat}
    (h : runNodeS I R nd = .ok (.feasible al sc)) :
    ∃ mm hsc, GuardsPass I nd ∧ H2.run (nodeInp I nd) = some (mm, hsc) ∧
      (∀ rooms, I.roomSizes = some rooms → ∃ sets, checkRoom I R nd (asgOf I nd mm) rooms = .ok (true, sets)) ∧
      (∃ pprob bc, checkFeas I nd (asgOf I nd mm) (nodeInp I nd).skipx.get = .ok (true, pprob, bc)) ∧
      al = (List.range I.P).map (asgOf I nd mm) ∧ sc = hsc.toNat + bonusOf I nd := by
  rcases runNodeS_ok h with ⟨-, h⟩ | ⟨mm, hsc, hg, hrun, ⟨_, _, -, -, h⟩ | ⟨hroom, b, pprob, bc, hf, h⟩⟩
  · cases h
  · cases h
  · cases b
    · cases h
    · cases h; exact ⟨mm, hsc, hg, hrun, hroom, ⟨_, _, hf⟩, rfl, rfl⟩

theorem runNodeS_infeasible {I : Inst} {R : RoomFns} {nd : Node} {kids : List Node} {sc : Nat}
    (h : runNodeS I R nd = .ok (.infeasible kids sc)) :
    ∃ mm hsc, GuardsPass I nd ∧ H2.run (nodeInp I nd) = some (mm, hsc) ∧ sc = hsc.toNat + bonusOf I nd ∧
      ((∃ rooms sets, I.roomSizes = some rooms ∧
          checkRoom I R nd (asgOf I nd mm) rooms = .ok (false, sets) ∧ kids = sets.map (roomKid nd)) ∨
       ((∀ rooms, I.roomSizes = some rooms → ∃ sets, checkRoom I R nd (asgOf I nd mm) rooms = .ok (true, sets)) ∧
        ∃ pprob bc, checkFeas I nd (asgOf I nd mm) (nodeInp I nd).skipx.get = .ok (false, pprob, bc) ∧
          kids = feasKids I nd pprob bc)) := by
  rcases runNodeS_ok h with ⟨-, h⟩ | ⟨mm, hsc, hg, hrun, ⟨rooms, sets, hr, hcr, h⟩ | ⟨hroom, b, pprob, bc, hf, h⟩⟩
  · cases h
  · cases h; exact ⟨mm, hsc, hg, hrun, rfl, .inl ⟨rooms, sets, hr, hcr, rfl⟩⟩
  · cases b
    · cases h; exact ⟨mm, hsc, hg, hrun, rfl, .inr ⟨hroom, pprob, bc, hf, rfl⟩⟩
    · cases h

/-- the size `createRCS` shrinks course `ci` to for a room of size `toSize` -/
def ssOf (I : Inst) (R : RoomFns) (ci toSize : Nat) : Nat :=
  max (R.quot ci toSize - (I.course ci).instructors.length) (I.course ci).numMin

/-- a shrink entry as `createRCS` makes it for room size `toSize`: the course is live and the new size
    is below every size recorded for it so far -/
def NewShrink (I : Inst) (R : RoomFns) (nd : Node) (toSize : Nat) (cs : Nat × Nat) : Prop :=
  cs.1 ∉ nd.cancelled ∧ cs.2 = ssOf I R cs.1 toSize ∧ ∀ cs' ∈ nd.shrinked, cs'.1 = cs.1 → cs.2 < cs'.2

theorem NewShrink.min_le {I : Inst} {R : RoomFns} {nd : Node} {toSize : Nat} {cs : Nat × Nat}
    (h : NewShrink I R nd toSize cs) : (I.course cs.1).numMin ≤ cs.2 :=
  h.2.1 ▸ Nat.le_max_right _ _

/-- a course `createRCS` cancels is live, not enforced and not fixed -/
def NewCancel (I : Inst) (nd : Node) (c : Nat) : Prop :=
  c ∉ nd.cancelled ∧ c ∉ nd.enforced ∧ (I.course c).fixed = false

/-- one course of `createRCS`: it is passed over (not allowed under `all_required`), or a new shrink entry is
    recorded for it, or it is cancelled -/
theorem createRCS_step (I : Inst) (R : RoomFns) (nd : Node) (toSize : Nat) (allReq : Bool) (ci : Nat)
    (rest : List Nat) (sh : List (Nat × Nat)) (ca : List Nat) :
    createRCS I R nd toSize allReq (ci :: rest) sh ca =
        (if allReq then none else createRCS I R nd toSize allReq rest sh ca) ∨
    (NewShrink I R nd toSize (ci, ssOf I R ci toSize) ∧ createRCS I R nd toSize allReq (ci :: rest) sh ca =
        createRCS I R nd toSize allReq rest (sh ++ [(ci, ssOf I R ci toSize)]) ca) ∨
    (NewCancel I nd ci ∧ createRCS I R nd toSize allReq (ci :: rest) sh ca =
        createRCS I R nd toSize allReq rest sh (ca ++ [ci])) := by
  -- `by_cases` and `rw [if_pos _]`: `split` would walk all the branches below each `if`
  rw [createRCS]
  dsimp only
  by_cases h1 : nd.cancelled.contains ci = true
  · exact .inl (if_pos h1)
  rw [if_neg h1]
  have h1' : ci ∉ nd.cancelled := by simpa using h1
  by_cases h2 : toSize ≥ R.eff ci ((I.course ci).numMin + (I.course ci).instructors.length)
  · rw [if_pos h2]
    by_cases h3 : nd.shrinked.any (fun (c', s) => c' == ci && s ≤ ssOf I R ci toSize) = true
    · exact .inl (if_pos h3)
    · refine .inr (.inl ⟨⟨h1', rfl, fun cs' hcs' he => Nat.lt_of_not_le fun hle => h3 ?_⟩, if_neg h3⟩)
      exact List.any_eq_true.2 ⟨cs', hcs', by simp [he, hle]⟩
  · rw [if_neg h2]
    by_cases h3 : (nd.enforced.contains ci || (I.course ci).fixed) = true
    · exact .inl (if_pos h3)
    · refine .inr (.inr ⟨⟨h1', ?_⟩, if_neg h3⟩)
      simpa using h3

/-- An invariant of `createRCS`: what holds of the entries it starts from, of every new shrink entry and of every
    newly cancelled course of the list, holds of all entries of the result. -/
theorem createRCS_inv {I : Inst} {R : RoomFns} {nd : Node} {toSize : Nat} {allReq : Bool} {l : List Nat}
    {sh : List (Nat × Nat)} {ca : List Nat} {r : RCS} {PS : Nat × Nat → Prop} {PC : Nat → Prop}
    (hS : ∀ cs, cs.1 ∈ l → NewShrink I R nd toSize cs → PS cs) (hC : ∀ c ∈ l, NewCancel I nd c → PC c)
    (h : createRCS I R nd toSize allReq l sh ca = some r) (hsh : ∀ cs ∈ sh, PS cs) (hca : ∀ c ∈ ca, PC c) :
    (∀ cs ∈ r.shrink, PS cs) ∧ ∀ c ∈ r.cancel, PC c := by
  induction l generalizing sh ca with
  | nil =>
    cases h
    exact ⟨hsh, hca⟩
  | cons ci rest ih =>
    have ih' := fun {sh ca} => @ih sh ca (fun cs hcs => hS cs (.tail _ hcs)) (fun c hc => hC c (.tail _ hc))
    rcases createRCS_step I R nd toSize allReq ci rest sh ca with h' | ⟨hnew, h'⟩ | ⟨hnew, h'⟩ <;> rw [h'] at h
    · rcases ite_eq_cases.1 h with ⟨-, h⟩ | ⟨-, h⟩
      · cases h
      · exact ih' h hsh hca
    · exact ih' h (List.forall_mem_append.2 ⟨hsh, List.forall_mem_singleton.2 (hS _ List.mem_cons_self hnew)⟩) hca
    · exact ih' h hsh (List.forall_mem_append.2 ⟨hca, List.forall_mem_singleton.2 (hC _ List.mem_cons_self hnew)⟩)

theorem effSizes_fst (I : Inst) (R : RoomFns) (a : Nat → Option Nat) : ∀ x ∈ effSizes I R a, x.1 < I.C := by
  intro x hx
  simp only [effSizes, List.mem_map, List.mem_range] at hx
  obtain ⟨c, hc, rfl⟩ := hx
  split <;> exact hc

theorem mem_selections {α : Type} {l : List α} {k : Nat} {sel : List α} (h : sel ∈ selections l k) :
    0 < k ∧ ∃ idx ∈ colexIdx l.length k, idx.filterMap (fun i => l[i]?) = sel := by
  unfold selections at h
  split at h
  · cases h
  · rename_i hk
    simp only [Bool.or_eq_true, beq_iff_eq, not_or] at hk
    exact ⟨Nat.pos_of_ne_zero hk.1, List.mem_map.1 h⟩

theorem selections_sub {α : Type} (l : List α) (k : Nat) : ∀ sel ∈ selections l k, ∀ x ∈ sel, x ∈ l := by
  intro sel hsel x hx
  obtain ⟨-, idx, -, rfl⟩ := mem_selections hsel
  obtain ⟨i, _, hi⟩ := List.mem_filterMap.1 hx
  exact List.mem_of_getElem? hi

/-- the first search of `checkRoom` (ranks from the back against the rooms) finds no conflict exactly if
    the rank-by-rank check `RG.codeOk` passes -/
theorem noConflict_iff (pairs : List (Nat × Nat)) (rooms : List Nat) :
    ((List.range (stableByKey pairs).length).reverse.zip rooms).find?
      (fun (i, r) => ((stableByKey pairs).getD i (0, 0)).2 > r) = none ↔ RG.codeOk pairs rooms = true := by
  have hw : RG.walked pairs = (List.range (stableByKey pairs).length).reverse.map
      fun i => ((stableByKey pairs).getD i (0, 0)).2 := by
    rw [List.map_reverse, List.map_getD_range]; rfl
  rw [RG.codeOk, hw, List.zip_map_left, List.all_map, List.find?_eq_none, List.all_eq_true]
  exact forall_congr' fun ⟨i, r⟩ => by
    simp only [Function.comp_apply, Prod.map_apply, id, decide_eq_true_eq, Nat.not_lt, gt_iff_lt]

/-- What an answer of the room check tells. "Fits": the rank-by-rank check passed. Branching: one
    set of courses always restricted and one constraint set per selection that `createRCS` accepts, none
    of them empty, all for the room size of one rank. -/
theorem checkRoom_eq_ok {I : Inst} {R : RoomFns} {nd : Node} {a : Nat → Option Nat} {rooms : List Nat}
    {b : Bool} {sets : List RCS} (h : checkRoom I R nd a rooms = .ok (b, sets)) :
    (b = true ∧ sets = [] ∧ RG.codeOk (effSizes I R a) rooms = true) ∨
    (b = false ∧ ∃ (j : Nat) (l : List Nat) (always : RCS) (sels : List (List (Nat × Nat))),
      (∀ c ∈ l, c < I.C) ∧ (∀ sel ∈ sels, ∀ x ∈ sel, x.1 < I.C) ∧
      createRCS I R nd (rooms.getD j 0) false l [] [] = some always ∧
      sets = sels.filterMap (fun sel =>
        (createRCS I R nd (rooms.getD j 0) true (sel.map (·.1)) [] []).map (fun r =>
          ({ shrink := r.shrink ++ always.shrink, cancel := r.cancel ++ always.cancel } : RCS))) ∧
      ∀ r ∈ sets, (r.shrink.isEmpty && r.cancel.isEmpty) = false) := by
  have hsrc : ∀ x ∈ stableByKey (effSizes I R a), x.1 < I.C :=
    fun x hx => effSizes_fst I R a x (List.mem_mergeSort.1 hx)
  unfold checkRoom at h
  dsimp only at h
  split at h
  · rename_i hfind
    cases h
    exact .inl ⟨rfl, rfl, (noConflict_iff _ _).1 hfind⟩
  · rename_i ci _ _
    split at h
    · contradiction
    · rename_i smallest _
      -- `split` on this `if` is slow: it walks the whole else-branch
      by_cases hlt : ci < smallest
      · rw [if_pos hlt] at h; cases h
      · rw [if_neg hlt] at h
        split at h
        · contradiction
        · rename_i always halways
          rcases ite_eq_cases.1 h with ⟨-, h⟩ | ⟨hany, hsets⟩
          · cases h
          cases hsets
          refine .inr ⟨rfl, _, _, always, _, ?_, ?_, halways, rfl, ?_⟩
          · intro c hc
            obtain ⟨x, hx, rfl⟩ := List.mem_map.1 hc
            exact hsrc x (List.mem_filter.1 hx).1
          · intro sel hsel x hx
            exact hsrc x (List.mem_of_mem_drop (List.mem_of_mem_take (selections_sub _ _ sel hsel x hx)))
          · intro r hr
            rw [← Bool.not_eq_true]
            exact fun he => hany (List.any_eq_true.2 ⟨r, hr, he⟩)

/-- the converse of the first case of `checkRoom_eq_ok` -/
theorem checkRoom_of_codeOk {I : Inst} {R : RoomFns} {nd : Node} {a : Nat → Option Nat} {rooms : List Nat}
    (h : RG.codeOk (effSizes I R a) rooms = true) : checkRoom I R nd a rooms = .ok (true, []) := by
  unfold checkRoom
  dsimp only
  rw [(noConflict_iff _ _).2 h]

theorem checkRoom_sets {I : Inst} {R : RoomFns} {nd : Node} {a : Nat → Option Nat} {rooms : List Nat}
    {b : Bool} {sets : List RCS} (h : checkRoom I R nd a rooms = .ok (b, sets)) :
    ∀ r ∈ sets, ∃ j, (∀ cs ∈ r.shrink, cs.1 < I.C ∧ NewShrink I R nd (rooms.getD j 0) cs) ∧
      (∀ c ∈ r.cancel, c < I.C ∧ NewCancel I nd c) ∧ (r.shrink ≠ [] ∨ r.cancel ≠ []) := by
  rcases checkRoom_eq_ok h with ⟨-, rfl, -⟩ | ⟨-, j, l, always, sels, hl, hsels, halways, rfl, hne⟩
  · exact fun _ h => nomatch h
  intro r hr
  have hne' := hne r hr
  obtain ⟨sel, hsel, hr⟩ := List.mem_filterMap.1 hr
  obtain ⟨r0, hr0, rfl⟩ := Option.map_eq_some_iff.1 hr
  have hselC : ∀ c ∈ sel.map (·.1), c < I.C := fun c hc => by
    obtain ⟨x, hx, rfl⟩ := List.mem_map.1 hc; exact hsels sel hsel x hx
  -- starting from nothing, every entry of a constraint set is new, and its course is one of the list
  have new : ∀ {b : Bool} {l : List Nat} {r : RCS}, (∀ c ∈ l, c < I.C) →
      createRCS I R nd (rooms.getD j 0) b l [] [] = some r →
      (∀ cs ∈ r.shrink, cs.1 < I.C ∧ NewShrink I R nd (rooms.getD j 0) cs) ∧
        ∀ c ∈ r.cancel, c < I.C ∧ NewCancel I nd c :=
    fun hl h => createRCS_inv (fun _ hm hn => ⟨hl _ hm, hn⟩) (fun _ hm hn => ⟨hl _ hm, hn⟩) h
      (fun _ h => nomatch h) (fun _ h => nomatch h)
  obtain ⟨a1, a2⟩ := new hl halways
  obtain ⟨s1, s2⟩ := new hselC hr0
  refine ⟨j, fun cs hcs => ?_, fun c hc => ?_, ?_⟩
  · exact (List.mem_append.1 hcs).elim (s1 cs) (a1 cs)
  · exact (List.mem_append.1 hc).elim (s2 c) (a2 c)
  · simp only [Bool.and_eq_false_iff, List.isEmpty_eq_false_iff] at hne'
    exact hne'

/-- the first active participant with own choices who sits in a course they did not choose -/
def wrongOf (I : Inst) (a : Nat → Option Nat) (isInstr : Nat → Bool) : Option Nat :=
  (List.range I.P).find? (fun p =>
    !isInstr p && !I.instructorOnly p && !(I.part p).choices.any (fun ch => some ch.course == a p))

/-- the live courses below their minimum -/
def violOf (I : Inst) (nd : Node) (a : Nat → Option Nat) (isInstr : Nat → Bool) : List Nat :=
  (List.range I.C).filter (fun c => !nd.cancelled.contains c && decide (sizeOf I a isInstr c < (I.course c).numMin))

theorem wrongOf_some {I : Inst} {a : Nat → Option Nat} {isI : Nat → Bool} {p : Nat}
    (h : wrongOf I a isI = some p) : p < I.P ∧ isI p = false ∧ I.instructorOnly p = false ∧
      (I.part p).choices.any (fun ch => some ch.course == a p) = false := by
  have hp := List.find?_some h
  simp only [Bool.and_eq_true, Bool.not_eq_true'] at hp
  exact ⟨List.mem_range.1 (List.mem_of_find?_eq_some h), hp.1.1, hp.1.2, hp.2⟩

theorem wrongOf_none {I : Inst} {a : Nat → Option Nat} {isI : Nat → Bool} (h : wrongOf I a isI = none)
    {p : Nat} (hp : p < I.P) (h1 : isI p = false) (h2 : I.instructorOnly p = false) :
    (I.part p).choices.any (fun ch => some ch.course == a p) = true := by
  have := List.find?_eq_none.1 h p (List.mem_range.2 hp)
  simpa [h1, h2] using this

theorem mem_violOf {I : Inst} {nd : Node} {a : Nat → Option Nat} {isI : Nat → Bool} {c : Nat} :
    c ∈ violOf I nd a isI ↔ c < I.C ∧ c ∉ nd.cancelled ∧ sizeOf I a isI c < (I.course c).numMin := by
  simp only [violOf, List.mem_filter, List.mem_range, Bool.and_eq_true, Bool.not_eq_true',
    List.contains_eq_mem, decide_eq_false_iff_not, decide_eq_true_eq]

/-- the first course with the largest deficit, as `checkFeas` folds it -/
def bestOf (I : Inst) (sz : Nat → Nat) (l : List Nat) (acc : Nat × Option Nat) : Nat × Option Nat :=
  l.foldl (fun (acc : Nat × Option Nat) c =>
    let d := (I.course c).numMin - sz c
    if d > acc.1 then (d, some c) else acc) acc

theorem bestOf_cases (I : Inst) (sz : Nat → Nat) (l : List Nat) (acc : Nat × Option Nat) :
    ((bestOf I sz l acc).2 = acc.2 ∨ ∃ c ∈ l, (bestOf I sz l acc).2 = some c) ∧
    ((bestOf I sz l acc).2 = none → acc.2 = none ∧ ∀ c ∈ l, (I.course c).numMin - sz c ≤ acc.1) := by
  induction l generalizing acc with
  | nil => exact ⟨.inl rfl, fun h => ⟨h, fun _ h => nomatch h⟩⟩
  | cons x l ih =>
    unfold bestOf
    simp only [List.foldl_cons]
    by_cases hx : (I.course x).numMin - sz x > acc.1
    · rw [if_pos hx]
      obtain ⟨h1, h2⟩ := ih ((I.course x).numMin - sz x, some x)
      refine ⟨.inr ?_, fun h => nomatch (h2 h).1⟩
      rcases h1 with h1 | ⟨c, hc, h1⟩
      · exact ⟨x, List.mem_cons_self, h1⟩
      · exact ⟨c, List.mem_cons_of_mem _ hc, h1⟩
    · rw [if_neg hx]
      obtain ⟨h1, h2⟩ := ih acc
      refine ⟨h1.imp_right fun ⟨c, hc, h⟩ => ⟨c, List.mem_cons_of_mem _ hc, h⟩,
        fun h => ⟨(h2 h).1, fun c hc => ?_⟩⟩
      rcases List.mem_cons.1 hc with rfl | hc
      · omega
      · exact (h2 h).2 c hc

theorem checkFeas_cases (I : Inst) (nd : Node) (a : Nat → Option Nat) (isI : Nat → Bool) :
    (∃ p bc, wrongOf I a isI = some p ∧ checkFeas I nd a isI = .ok (false, true, bc) ∧
      ∀ c, bc = some c → c < I.C ∧ c ∉ nd.cancelled ∧ c ∉ nd.enforced) ∨
    (wrongOf I a isI = none ∧ checkFeas I nd a isI =
      if (violOf I nd a isI).any (fun c => nd.enforced.contains c) then .error "assert-enforced-min"
      else .ok ((bestOf I (sizeOf I a isI) (violOf I nd a isI) (0, none)).2.isNone, false,
        (bestOf I (sizeOf I a isI) (violOf I nd a isI) (0, none)).2)) := by
  unfold checkFeas
  dsimp only
  split
  · rename_i p hw
    refine .inl ⟨p, ?_⟩
    split
    · exact ⟨_, hw, rfl, fun _ h => nomatch h⟩
    · rename_i rc sz tl hs
      refine ⟨_, hw, rfl, fun c hc => ?_⟩
      cases hc
      have hm := List.mem_mergeSort.1 (hs ▸ List.mem_cons_self : (rc, sz) ∈ stableByKey _)
      simp only [List.mem_map, List.mem_filter, List.mem_range, Prod.mk.injEq, Bool.and_eq_true,
        Bool.not_eq_true', List.contains_eq_mem, decide_eq_false_iff_not] at hm
      obtain ⟨x, ⟨hx, ⟨hc, he⟩, _⟩, rfl, _⟩ := hm
      exact ⟨hx, hc, he⟩
  · rename_i hw
    exact .inr ⟨hw, rfl⟩

/-- What an answer of the feasibility check tells. Either a participant sits in a course they did not
    choose: the answer is "infeasible, participant problem" with a free course (or none) to cancel. Or
    there is none: no enforced course is below its minimum, the answer is "feasible" exactly if no live
    course is, and otherwise proposes one that is. -/
theorem checkFeas_eq_ok {I : Inst} {nd : Node} {a : Nat → Option Nat} {isI : Nat → Bool} {b pprob : Bool}
    {bc : Option Nat} (h : checkFeas I nd a isI = .ok (b, pprob, bc)) :
    (∃ p, wrongOf I a isI = some p ∧ b = false ∧ pprob = true ∧
      ∀ c, bc = some c → c < I.C ∧ c ∉ nd.cancelled ∧ c ∉ nd.enforced) ∨
    (wrongOf I a isI = none ∧ pprob = false ∧ (∀ c ∈ violOf I nd a isI, c ∉ nd.enforced) ∧
      (b = true → bc = none ∧ violOf I nd a isI = []) ∧
      (b = false → ∃ c ∈ violOf I nd a isI, bc = some c)) := by
  rcases checkFeas_cases I nd a isI with ⟨p, bc', hw, h', hbc⟩ | ⟨hw, h'⟩ <;> rw [h'] at h
  · cases h
    exact .inl ⟨p, hw, rfl, rfl, hbc⟩
  · rcases ite_eq_cases.1 h with ⟨-, h⟩ | ⟨hany, hres⟩
    · cases h
    simp only [Except.ok.injEq, Prod.mk.injEq] at hres
    obtain ⟨hb, hp, hbc⟩ := hres
    have hb' := bestOf_cases I (sizeOf I a isI) (violOf I nd a isI) (0, none)
    rw [hbc] at hb' hb
    refine .inr ⟨hw, hp.symm, fun c hc he => hany (List.any_eq_true.2 ⟨c, hc, by simpa using he⟩), ?_, ?_⟩
    · intro hbt
      rw [hbt] at hb
      have hn : bc = none := Option.isNone_iff_eq_none.1 hb
      refine ⟨hn, List.eq_nil_iff_forall_not_mem.2 fun c hc => ?_⟩
      have := (hb'.2 hn).2 c hc
      have := (mem_violOf.1 hc).2.2
      omega
    · intro hbf
      rw [hbf] at hb
      rcases hb'.1 with h0 | h0
      · rw [h0] at hb; cases hb
      · exact h0

end N2
