import Cdecao.Model.Rooms
import Cdecao.Proofs.SortDesc
import Batteries.Data.List.Perm
/-! C18 plumbing: from the rank-wise double loop `RS.possible` to the per-course listing
    `RM.possibleByCourse` (sorting permutation, descending room list, `dedup`), and the link between
    the executable specification (`RM.fits`, `RM.usable`, `RM.specSound`, `RM.specNonempty`) and the
    `Prop` statements (`RS.Feasible`, `RMP.CAlloc`). -/
namespace RMP
open RM RS

theorem sortDesc_perm (l : List Nat) : (sortDesc l).Perm l := List.mergeSort_perm _ _

theorem sortDesc_GE (l : List Nat) : GE (sortDesc l) := mergeSort_GE l

theorem length_sortDesc (l : List Nat) : (sortDesc l).length = l.length := (sortDesc_perm l).length_eq

theorem sortDesc_eq_of {l s : List Nat} (hs : GE s) (h : s.Perm l) : sortDesc l = s := mergeSort_eq_of hs h

theorem GE.desc {l : List Nat} (h : GE l) : Desc l := fun _ _ hij _ => h.anti hij

theorem Desc.ge {l : List Nat} (h : Desc l) : GE l := by
  refine List.pairwise_iff_getElem.mpr ?_
  intro i j hi hj hij
  have := h i j (Nat.le_of_lt hij) hj
  rwa [getD_of_lt hi, getD_of_lt hj] at this

/-- what `RM.orderOk` checks -/
structure OrderFacts (sizes order : List Nat) : Prop where
  len : order.length = sizes.length
  perm : (List.range sizes.length).Perm order
  ge : GE (order.map (fun c => sizes.getD c 0))

theorem GE_iff_adjacent {l : List Nat} : GE l ↔ ∀ i, (h : i + 1 < l.length) → l[i + 1] ≤ l[i] := by
  haveI : Trans (fun a b : Nat => b ≤ a) (fun a b => b ≤ a) (fun a b => b ≤ a) :=
    ⟨fun h1 h2 => Nat.le_trans h2 h1⟩
  rw [GE, ← List.isChain_iff_pairwise, List.isChain_iff_getElem]

theorem range_perm_iff {order : List Nat} {n : Nat} (hlen : order.length = n) :
    (List.range n).Perm order ↔ ∀ c, c < n → order.count c = 1 := by
  constructor
  · intro hperm c hc
    rw [← hperm.count_eq]
    have h1 := List.nodup_iff_count.mp (List.nodup_range (n := n)) c
    have h2 := List.count_pos_iff.mpr (List.mem_range.mpr hc)
    omega
  · intro hcount
    refine (List.subperm_of_subset List.nodup_range fun c hc => ?_).perm_of_length_le (by simp [hlen])
    exact List.count_pos_iff.mp (by rw [hcount c (List.mem_range.mp hc)]; exact Nat.one_pos)

theorem orderOk_iff {sizes order : List Nat} : orderOk sizes order = true ↔ OrderFacts sizes order := by
  -- the code's comparisons of neighbours are those of the list of sizes by rank
  have adj : GE (order.map fun c => sizes.getD c 0) ↔
      ∀ i, i < order.length - 1 → sizes.getD (order.getD (i + 1) 0) 0 ≤ sizes.getD (order.getD i 0) 0 := by
    simp only [GE_iff_adjacent, List.length_map, List.getElem_map, Nat.lt_sub_iff_add_lt]
    refine forall_congr' fun i => forall_congr' fun h => ?_
    rw [getD_of_lt h, getD_of_lt (Nat.lt_of_succ_lt h)]
  simp only [orderOk, Bool.and_eq_true, beq_iff_eq, List.all_eq_true, List.mem_range,
    decide_eq_true_eq, and_assoc, ← adj]
  exact ⟨fun ⟨a, b, c⟩ => ⟨a, (range_perm_iff a).mpr b, c⟩, fun ⟨a, b, c⟩ => ⟨a, (range_perm_iff a).mp b, c⟩⟩

namespace OrderFacts
variable {sizes order : List Nat} (F : OrderFacts sizes order)
include F

theorem nodup : order.Nodup := F.perm.nodup List.nodup_range

theorem idx_lt {c : Nat} (hc : c < sizes.length) : order.idxOf c < order.length :=
  List.idxOf_lt_length_of_mem (F.perm.mem_iff.mp (List.mem_range.mpr hc))

theorem perm_sizes : (order.map (fun c => sizes.getD c 0)).Perm sizes :=
  (F.perm.map _).symm.trans (List.Perm.of_eq ((List.map_getD_range sizes 0 id).trans (List.map_id _)))

end OrderFacts

def inst (sizes order rooms : List Nat) : RS.In :=
  { S := order.map (fun c => sizes.getD c 0), R := sortDesc rooms }

theorem possibleByCourse_eq (sizes order rooms : List Nat) :
    possibleByCourse sizes order rooms =
      (List.range sizes.length).map (fun c => dedupAdj (RS.slot (RS.possible (inst sizes order rooms)) (order.idxOf c))) := rfl

theorem inst_s {sizes order : List Nat} (F : OrderFacts sizes order) (rooms : List Nat) {c : Nat}
    (hc : c < sizes.length) : (inst sizes order rooms).s (order.idxOf c) = sizes.getD c 0 := by
  have h := F.idx_lt hc
  simp [inst, In.s, List.getD_eq_getElem?_getD, h]

theorem getD_zero_of_all {l : List Nat} (h : ∀ b ∈ l, b = 0) (i : Nat) : l.getD i 0 = 0 := by
  rw [List.getD_eq_getElem?_getD]
  cases hg : l[i]? with
  | none => rfl
  | some b => exact h b (List.mem_of_getElem? hg)

/-- dropping the zeros of a descending list does not change it as a function with default 0 -/
theorem GE.filter_getD {l : List Nat} (h : GE l) (i : Nat) :
    (l.filter (· > 0)).getD i 0 = l.getD i 0 := by
  induction l generalizing i with
  | nil => rfl
  | cons a l ih =>
    by_cases hp : a > 0
    · rw [List.filter_cons, if_pos (decide_eq_true hp)]
      cases i with
      | zero => rfl
      | succ i => exact ih (List.Pairwise.of_cons h) i
    · -- the head is 0, so everything is
      have h0 : ∀ b ∈ a :: l, b = 0 := fun b hb =>
        Nat.eq_zero_of_le_zero (Nat.le_trans (h.le_head hb) (Nat.le_of_not_lt hp))
      rw [getD_zero_of_all h0, getD_zero_of_all fun b hb => h0 b (List.mem_filter.mp hb).1]

theorem fits_iff {sizes rooms S R : List Nat} (hS : GE S) (hSp : S.Perm sizes) (hR : GE R)
    (hRp : R.Perm rooms) : fits sizes rooms = true ↔ ∀ i, S.getD i 0 ≤ R.getD i 0 := by
  have e1 : sortDesc rooms = R := sortDesc_eq_of hR hRp
  have e2 : sortDesc (sizes.filter (· > 0)) = S.filter (· > 0) :=
    sortDesc_eq_of (List.Pairwise.filter _ hS) (hSp.filter _)
  simp only [fits, e1, e2, List.all_eq_true, List.mem_range, decide_eq_true_eq]
  rw [forall_getD_le_iff]
  simp only [hS.filter_getD]

theorem feasible_iff (I : In) : Feasible I ↔ ∀ i, I.S.getD i 0 ≤ I.R.getD i 0 := by
  constructor
  · intro h i
    by_cases hpos : 0 < I.S.getD i 0
    · exact (h i (lt_length_of_getD_pos hpos) hpos).2
    · exact Nat.le_trans (Nat.le_of_not_lt hpos) (Nat.zero_le _)
  · intro h i _ hpos
    exact ⟨lt_length_of_getD_pos (Nat.lt_of_lt_of_le hpos (h i)), h i⟩

theorem fits_iff_feasible {sizes order : List Nat} (F : OrderFacts sizes order) (rooms : List Nat) :
    fits sizes rooms = true ↔ Feasible (inst sizes order rooms) :=
  (fits_iff F.ge F.perm_sizes (sortDesc_GE rooms) (sortDesc_perm rooms)).trans
    (feasible_iff (inst sizes order rooms)).symm

/-- a complete allocation of distinct room indices (into the rooms list as given) to all courses
    that take place (positive effective size) -/
structure CAlloc (sizes rooms : List Nat) (g : Nat → Nat) : Prop where
  lt : ∀ c, c < sizes.length → 0 < sizes.getD c 0 → g c < rooms.length
  fits : ∀ c, c < sizes.length → 0 < sizes.getD c 0 → sizes.getD c 0 ≤ rooms.getD (g c) 0
  inj : ∀ c1 c2, c1 < sizes.length → c2 < sizes.length → 0 < sizes.getD c1 0 → 0 < sizes.getD c2 0 →
    g c1 = g c2 → c1 = c2

theorem mem_dedupAdj (l : List Nat) (v : Nat) : v ∈ dedupAdj l ↔ v ∈ l := by
  induction l using dedupAdj.induct with
  | case1 => rfl
  | case2 x => rfl
  | case3 x y rest heq ih =>
    obtain rfl : x = y := by simpa using heq
    rw [dedupAdj, if_pos heq, ih]
    simp only [List.mem_cons, or_self_left]
  | case4 x y rest hne ih => rw [dedupAdj, if_neg hne, List.mem_cons, ih, List.mem_cons (a := v) (b := x)]

theorem length_possibleByCourse (sizes order rooms : List Nat) :
    (possibleByCourse sizes order rooms).length = sizes.length := by
  simp [possibleByCourse_eq]

theorem mem_possibleByCourse {sizes order rooms : List Nat} {c : Nat} (hc : c < sizes.length) {v : Nat} :
    v ∈ (possibleByCourse sizes order rooms).getD c [] ↔
      v ∈ slot (possible (inst sizes order rooms)) (order.idxOf c) := by
  simp [possibleByCourse_eq, List.getD_eq_getElem?_getD, hc, mem_dedupAdj]

theorem removeOne_eq_erase (x : Nat) (l : List Nat) : removeOne x l = l.erase x := by
  induction l with
  | nil => rfl
  | cons y ys ih =>
    by_cases h : x = y
    · subst h; simp [removeOne]
    · have h' : ¬ y = x := fun e => h e.symm
      simp [removeOne, h, h', ih]

/-- dropping the entry with index `m` from a list indexed from `k` on -/
theorem zipIdx_filter_ne (l : List Nat) (k m : Nat) :
    ((l.zipIdx k).filter (fun (_, i) => i != m)).map (·.1) = if m < k then l else l.eraseIdx (m - k) := by
  induction l generalizing k with
  | nil => split <;> rfl
  | cons a l ih =>
    rw [List.zipIdx_cons, List.filter_cons]
    rcases Nat.lt_trichotomy m k with h | rfl | h
    · rw [if_pos (by simpa using Nat.ne_of_gt h), List.map_cons, ih, if_pos (Nat.lt_succ_of_lt h), if_pos h]
    · rw [if_neg (by simp), ih, if_pos (Nat.lt_succ_self m), if_neg (Nat.lt_irrefl m), Nat.sub_self]; rfl
    · obtain ⟨d, hd⟩ := Nat.exists_eq_add_one_of_ne_zero (Nat.sub_ne_zero_of_lt h)
      rw [if_pos (by simpa using Nat.ne_of_lt h), List.map_cons, ih, if_neg (Nat.not_lt.mpr h),
        if_neg (Nat.lt_asymm h), Nat.sub_add_eq, hd, Nat.add_sub_cancel]; rfl

/-- the other courses' sizes, as computed by `RM.usable` -/
theorem others_eq (sizes : List Nat) (c : Nat) :
    (sizes.zipIdx.filter (fun (_, i) => i != c)).map (·.1) = sizes.eraseIdx c :=
  zipIdx_filter_ne sizes 0 c

theorem usable_iff {sizes rooms : List Nat} {c v : Nat} :
    usable sizes rooms c v = true ↔
      sizes.getD c 0 ≤ v ∧ v ∈ rooms ∧ fits (sizes.eraseIdx c) (rooms.erase v) = true := by
  simp only [usable, others_eq, removeOne_eq_erase, Bool.and_eq_true, decide_eq_true_eq,
    List.contains_iff_mem, and_assoc]

theorem specSound_iff {sizes rooms : List Nat} {listed : List (List Nat)} :
    specSound sizes rooms listed = true ↔
      ∀ c, c < sizes.length → ∀ v ∈ listed.getD c [], usable sizes rooms c v = true := by
  simp only [specSound, List.all_eq_true, List.mem_range]

theorem specNonempty_iff {sizes : List Nat} {listed : List (List Nat)} :
    specNonempty sizes listed = true ↔
      ∀ c, c < sizes.length → 0 < sizes.getD c 0 → listed.getD c [] ≠ [] := by
  simp only [specNonempty, List.all_eq_true, List.mem_range, Bool.or_eq_true, beq_iff_eq,
    Bool.not_eq_true', List.isEmpty_eq_false_iff, Nat.pos_iff_ne_zero, Decidable.or_iff_not_imp_left]

theorem perm_cons_eraseIdx {l : List Nat} {i a : Nat} (h : l[i]? = some a) :
    l.Perm (a :: l.eraseIdx i) := by
  obtain ⟨hi, rfl⟩ := List.getElem?_eq_some_iff.mp h
  have e : l = l.take i ++ l[i] :: l.drop (i + 1) := by
    rw [List.getElem_cons_drop hi, List.take_append_drop]
  rw [List.eraseIdx_eq_take_drop_succ]
  exact (List.Perm.of_eq e).trans List.perm_middle

theorem perm_eraseIdx {l₁ l₂ : List Nat} (h : l₁.Perm l₂) {i j a : Nat} (h1 : l₁[i]? = some a)
    (h2 : l₂[j]? = some a) : (l₁.eraseIdx i).Perm (l₂.eraseIdx j) :=
  List.Perm.cons_inv (((perm_cons_eraseIdx h1).symm.trans h).trans (perm_cons_eraseIdx h2))

theorem getD_eraseIdx (l : List Nat) (i j : Nat) :
    (l.eraseIdx i).getD j 0 = if j < i then l.getD j 0 else l.getD (j + 1) 0 := by
  simp only [List.getD_eq_getElem?_getD, List.getElem?_eraseIdx]
  split <;> rfl

/-- removing rank `x` of the sizes and rank `j` of the rooms keeps the rank-wise fit, provided that
    for `j < x` the course of rank `j` also fits room `x` (the ranks `j ≤ i < x` move up one room) -/
theorem erase_fits {S R : List Nat} (hS : GE S) (hR : GE R) (hF : ∀ i, S.getD i 0 ≤ R.getD i 0)
    {x j : Nat} (hfit : j < x → S.getD j 0 ≤ R.getD x 0) (i : Nat) :
    (S.eraseIdx x).getD i 0 ≤ (R.eraseIdx j).getD i 0 := by
  rw [getD_eraseIdx, getD_eraseIdx]
  by_cases hx : i < x <;> by_cases hj : i < j
  · rw [if_pos hx, if_pos hj]; exact hF i
  · rw [if_pos hx, if_neg hj]
    have hji := Nat.le_of_not_lt hj
    exact Nat.le_trans (hS.anti hji)
      (Nat.le_trans (hfit (Nat.lt_of_le_of_lt hji hx)) (hR.anti hx))
  · rw [if_neg hx, if_pos hj]; exact Nat.le_trans (hS.anti (Nat.le_succ i)) (hF i)
  · rw [if_neg hx, if_neg hj]; exact hF (i + 1)

/-- a listed room can be taken out together with the rank it is listed for -/
theorem possible_erase_fits {I : In} {x v : Nat} (hS : GE I.S) (hR : GE I.R)
    (hF : ∀ i, I.S.getD i 0 ≤ I.R.getD i 0) (hv : v ∈ slot (possible I) x) :
    ∃ j, I.R[j]? = some v ∧ I.s x ≤ v ∧
      ∀ i, (I.S.eraseIdx x).getD i 0 ≤ (I.R.eraseIdx j).getD i 0 := by
  have get : ∀ {j}, j < I.R.length → I.R[j]? = some (I.r j) := fun h => by
    rw [List.getElem?_eq_getElem h, In.r, getD_of_lt h]
  rcases possible_mem I x v hv with ⟨j, hj, rfl⟩ | ⟨i0, hi, _, rfl⟩
  · obtain ⟨a, b, d⟩ := mem_js hj
    exact ⟨j, get b, d, erase_fits hS hR hF fun h => absurd h (Nat.not_lt.mpr a)⟩
  · obtain ⟨a, b, d⟩ := mem_js hi
    exact ⟨i0, get (Nat.lt_of_le_of_lt a b), Nat.le_trans (hF _) (hR.anti a),
      erase_fits hS hR hF fun _ => d⟩

theorem possibleByCourse_usable {sizes order rooms : List Nat} (hO : orderOk sizes order = true)
    (hF : fits sizes rooms = true) {c v : Nat} (hc : c < sizes.length)
    (hv : v ∈ (possibleByCourse sizes order rooms).getD c []) : usable sizes rooms c v = true := by
  have F := orderOk_iff.mp hO
  have hR : GE (sortDesc rooms) := sortDesc_GE rooms
  rw [mem_possibleByCourse hc] at hv
  obtain ⟨j, hjv, h1, hfit⟩ := possible_erase_fits (I := inst sizes order rooms) F.ge hR
    ((fits_iff F.ge F.perm_sizes hR (sortDesc_perm rooms)).mp hF) hv
  rw [inst_s F rooms hc] at h1
  have hm : v ∈ sortDesc rooms := List.mem_of_getElem? hjv
  have p1 : ((inst sizes order rooms).S.eraseIdx (order.idxOf c)).Perm (sizes.eraseIdx c) := by
    refine perm_eraseIdx F.perm_sizes (a := sizes.getD c 0) ?_ ?_
    · simp [List.getElem?_map, List.getElem?_eq_getElem (F.idx_lt hc)]
    · simp [List.getD_eq_getElem?_getD, hc]
  have p2 : ((sortDesc rooms).eraseIdx j).Perm (rooms.erase v) :=
    (List.Perm.cons_inv ((perm_cons_eraseIdx hjv).symm.trans (List.perm_cons_erase hm))).trans
      ((sortDesc_perm rooms).erase v)
  exact usable_iff.mpr ⟨h1, (sortDesc_perm rooms).mem_iff.mp hm,
    (fits_iff (List.Pairwise.eraseIdx _ F.ge) p1 (List.Pairwise.eraseIdx _ hR) p2).mpr hfit⟩

/-! A course or a room that is taken out is one of size 0: `CAlloc` and `fits` ignore zeros, so no
    index has to be shifted. -/

theorem getD_set_zero (l : List Nat) (i k : Nat) :
    (l.set i 0).getD k 0 = if k = i then 0 else l.getD k 0 := by
  simp only [List.getD_eq_getElem?_getD, List.getElem?_set]
  by_cases h : i = k
  · subst h; rw [if_pos rfl, if_pos rfl]; split <;> rfl
  · simp [h, Ne.symm h]

theorem getD_append_zero (l : List Nat) (i : Nat) : (l ++ [0]).getD i 0 = l.getD i 0 := by
  simp only [List.getD_eq_getElem?_getD, List.getElem?_append]
  split
  · rfl
  · next h => rw [List.getElem?_eq_none (Nat.le_of_not_lt h)]; cases i - l.length <;> rfl

theorem GE.append_zero {l : List Nat} (h : GE l) : GE (l ++ [0]) :=
  List.pairwise_append.mpr ⟨h, List.pairwise_singleton .., fun _ _ _ hb =>
    List.mem_singleton.mp hb ▸ Nat.zero_le _⟩

theorem set_zero_perm {l : List Nat} {i : Nat} (hi : i < l.length) : (l.eraseIdx i ++ [0]).Perm (l.set i 0) := by
  have := perm_cons_eraseIdx (l := l.set i 0) (i := i) (a := 0) (by simp [hi])
  rw [List.eraseIdx_set_eq] at this
  exact (List.perm_append_singleton ..).trans this.symm

/-- for the rank-wise fit, removing a course / a room is setting its size to 0 -/
theorem fits_set_zero {sizes rooms : List Nat} {c j : Nat} (hc : c < sizes.length) (hj : j < rooms.length)
    (h : fits (sizes.eraseIdx c) (rooms.eraseIdx j) = true) : fits (sizes.set c 0) (rooms.set j 0) = true := by
  have hS := sortDesc_GE (sizes.eraseIdx c)
  have hR := sortDesc_GE (rooms.eraseIdx j)
  rw [fits_iff hS (sortDesc_perm _) hR (sortDesc_perm _)] at h
  rw [fits_iff hS.append_zero (((sortDesc_perm _).append_right _).trans (set_zero_perm hc))
    hR.append_zero (((sortDesc_perm _).append_right _).trans (set_zero_perm hj))]
  simpa only [getD_append_zero] using h

/-- an allocation that avoids course `c` and room `j` (both counted as size 0) extends by `c ↦ j`,
    and then nobody else is sent to `j` -/
theorem CAlloc.extend {sizes rooms : List Nat} {c j : Nat} {g' : Nat → Nat} (hj : j < rooms.length)
    (hfit : sizes.getD c 0 ≤ rooms.getD j 0) (h : CAlloc (sizes.set c 0) (rooms.set j 0) g') :
    ∃ g, CAlloc sizes rooms g ∧ g c = j ∧ ∀ c', g c' = j → c' = c := by
  -- whoever else `g'` sends to `j` is sent outside the room list
  obtain ⟨g, hg⟩ : ∃ g : Nat → Nat, ∀ c', g c' =
      if c' = c then j else if g' c' = j then rooms.length else g' c' := ⟨_, fun _ => rfl⟩
  have ec : g c = j := by rw [hg, if_pos rfl]
  have out : ∀ c', g c' = j → c' = c := fun c' hgj => Decidable.byContradiction fun e => by
    rw [hg, if_neg e] at hgj
    split at hgj
    · exact Nat.ne_of_gt hj hgj
    · next hne => exact hne hgj
  -- a course other than `c` that takes place does so in `sizes.set c 0` too, where its room has
  -- positive size and hence is not `j`
  have key : ∀ c', c' ≠ c → 0 < sizes.getD c' 0 → 0 < (sizes.set c 0).getD c' 0 ∧
      g c' = g' c' ∧ g' c' < rooms.length ∧ sizes.getD c' 0 ≤ rooms.getD (g' c') 0 := by
    intro c' e hp
    have hp' : 0 < (sizes.set c 0).getD c' 0 := by rwa [getD_set_zero, if_neg e]
    have h1 := h.lt c' (lt_length_of_getD_pos hp') hp'
    have h2 := h.fits c' (lt_length_of_getD_pos hp') hp'
    rw [getD_set_zero, if_neg e, getD_set_zero] at h2
    rw [List.length_set] at h1
    split at h2
    · exact absurd hp (Nat.not_lt.mpr h2)
    · next hne => exact ⟨hp', by rw [hg, if_neg e, if_neg hne], h1, h2⟩
  refine ⟨g, ⟨fun c' _ hp => ?_, fun c' _ hp => ?_, fun c1 c2 _ _ p1 p2 hgg => ?_⟩, ec, out⟩
  · by_cases e : c' = c
    · rw [e, ec]; exact hj
    · rw [(key c' e hp).2.1]; exact (key c' e hp).2.2.1
  · by_cases e : c' = c
    · rw [e, ec]; exact hfit
    · rw [(key c' e hp).2.1]; exact (key c' e hp).2.2.2
  · by_cases e1 : c1 = c
    · rw [e1, ec] at hgg; exact e1.trans (out c2 hgg.symm).symm
    by_cases e2 : c2 = c
    · rw [e2, ec] at hgg; exact (out c1 hgg).trans e2.symm
    obtain ⟨q1, g1, -, -⟩ := key c1 e1 p1
    obtain ⟨q2, g2, -, -⟩ := key c2 e2 p2
    exact h.inj c1 c2 (lt_length_of_getD_pos q1) (lt_length_of_getD_pos q2) q1 q2 (g1 ▸ g2 ▸ hgg)
theorem getD_idxOf {l : List Nat} {a : Nat} (h : a ∈ l) :
    l.idxOf a < l.length ∧ l[l.idxOf a]? = some a ∧ l.getD (l.idxOf a) 0 = a := by
  have hl := List.idxOf_lt_length_of_mem h
  simp [List.getD_eq_getElem?_getD, hl]

/-- rank-wise fit gives a complete allocation of distinct rooms: give a course that takes place the
    room of its rank and go on with the rest -/
theorem fits_alloc {sizes rooms : List Nat} (hF : fits sizes rooms = true) : ∃ g, CAlloc sizes rooms g := by
  induction hn : sizes.countP (· > 0) generalizing sizes rooms with
  | zero =>
    have hz : ∀ c, c < sizes.length → ¬ 0 < sizes.getD c 0 := fun c hc hpos => by
      rw [getD_of_lt hc] at hpos
      exact List.countP_eq_zero.mp hn _ (List.getElem_mem hc) (decide_eq_true hpos)
    exact ⟨id, fun c hc hp => absurd hp (hz c hc), fun c hc hp => absurd hp (hz c hc),
      fun c _ hc _ hp => absurd hp (hz c hc)⟩
  | succ n ih =>
    have hSp := sortDesc_perm sizes
    have hRp := sortDesc_perm rooms
    have hS := sortDesc_GE sizes
    have hR := sortDesc_GE rooms
    rw [fits_iff hS hSp hR hRp] at hF
    -- a course that takes place, its rank `x`, and the room of that rank
    obtain ⟨s, hs, hpos⟩ := List.countP_pos_iff.mp (by rw [hn]; exact Nat.succ_pos n)
    obtain ⟨x, hx, rfl⟩ := List.getElem_of_mem (hSp.mem_iff.mpr hs)
    have hfit := hF x
    rw [getD_of_lt hx] at hfit
    have hxr := lt_length_of_getD_pos (Nat.lt_of_lt_of_le (of_decide_eq_true hpos) hfit)
    rw [getD_of_lt hxr] at hfit
    obtain ⟨hc, hcs, hcs'⟩ := getD_idxOf hs
    obtain ⟨hj, hjr, hjr'⟩ := getD_idxOf (hRp.mem_iff.mp (List.getElem_mem hxr))
    -- with both counted as 0 the rest still fits: the same rank goes on either side
    have hF' := fits_set_zero hc hj ((fits_iff (List.Pairwise.eraseIdx x hS)
      (perm_eraseIdx hSp (List.getElem?_eq_getElem hx) hcs) (List.Pairwise.eraseIdx x hR)
      (perm_eraseIdx hRp (List.getElem?_eq_getElem hxr) hjr)).mpr
      (erase_fits hS hR hF fun h => absurd h (Nat.lt_irrefl x)))
    have hm : (sizes.set (sizes.idxOf (sortDesc sizes)[x]) 0).countP (· > 0) = n := by
      rw [List.countP_set hc, hn, (List.getElem?_eq_some_iff.mp hcs).2, if_pos hpos]
      rfl
    obtain ⟨g', hg'⟩ := ih hF' hm
    obtain ⟨g, hg, -⟩ := hg'.extend hj (by rw [hcs', hjr']; exact hfit)
    exact ⟨g, hg⟩

theorem usable_alloc {sizes rooms : List Nat} {c v : Nat} (hc : c < sizes.length)
    (h : usable sizes rooms c v = true) :
    sizes.getD c 0 ≤ v ∧ v ∈ rooms ∧
    ∃ g : Nat → Nat, CAlloc sizes rooms g ∧ g c < rooms.length ∧ rooms.getD (g c) 0 = v ∧
      ∀ c', g c' = g c → c' = c := by
  obtain ⟨h1, h2, h3⟩ := usable_iff.mp h
  obtain ⟨hj, _, hjv⟩ := getD_idxOf h2
  rw [List.erase_eq_eraseIdx_of_idxOf rfl] at h3
  obtain ⟨g', hg'⟩ := fits_alloc (fits_set_zero hc hj h3)
  obtain ⟨g, hA, hgc, hne⟩ := hg'.extend hj (by rw [hjv]; exact h1)
  exact ⟨h1, h2, g, hA, by rw [hgc]; exact hj, by rw [hgc]; exact hjv, fun c' hg => hne c' (hg.trans hgc)⟩

theorem possibleByCourse_nonempty {sizes order rooms : List Nat} (hO : orderOk sizes order = true)
    (hF : fits sizes rooms = true) {c : Nat} (hc : c < sizes.length) (hpos : 0 < sizes.getD c 0) :
    (sortDesc rooms).getD (order.idxOf c) 0 ∈ (possibleByCourse sizes order rooms).getD c [] := by
  have F := orderOk_iff.mp hO
  have hx : order.idxOf c < (inst sizes order rooms).num := by
    rw [In.num, inst, List.length_map]; exact F.idx_lt hc
  exact (mem_possibleByCourse hc).mpr (possible_nonempty _ ((fits_iff_feasible F rooms).mp hF) _ hx
    (by rw [inst_s F rooms hc]; exact hpos))

def kindRooms (kinds : List Kind) : List Nat :=
  kinds.flatMap (fun k => List.replicate k.quantity k.capacity)

theorem mem_kindRooms (kinds : List Kind) (v : Nat) :
    v ∈ kindRooms kinds ↔ ∃ k ∈ kinds, 0 < k.quantity ∧ k.capacity = v := by
  simp only [kindRooms, List.mem_flatMap, List.mem_replicate, Nat.pos_iff_ne_zero, eq_comm (a := v)]

theorem readKinds_fst (ks : List Kind) : (readKinds ks).1 = kindRooms (readKinds ks).2 := rfl

theorem readKinds_snd_desc (ks : List Kind) :
    (readKinds ks).2.Pairwise (fun a b => b.capacity ≤ a.capacity) := by
  rw [readKinds, List.pairwise_reverse]
  exact List.pairwise_mergeSort_le (·.capacity) ks

/-- the room list read from the rooms file is already descending, so the `sortDesc` inside
    `possibleByCourse` leaves it unchanged -/
theorem readKinds_fst_GE (ks : List Kind) : GE (readKinds ks).1 := by
  rw [readKinds_fst, GE, kindRooms, List.pairwise_flatMap]
  refine ⟨fun k _ => ?_, (readKinds_snd_desc ks).imp fun hab x hx y hy => ?_⟩
  · rw [List.pairwise_replicate]; exact Or.inr (Nat.le_refl _)
  · rw [List.mem_replicate] at hx hy
    rw [hx.2, hy.2]; exact hab

/-- the per-course lists of kind names before joining with ", " -/
def kindNameLists (sizes order : List Nat) (kinds : List Kind) : List (List String) :=
  (possibleByCourse sizes order (kindRooms kinds)).map (fun l =>
    l.flatMap (fun r => (kinds.filter (fun k => k.capacity == r && decide (0 < k.quantity))).map (·.name)))

theorem kindNames_eq (sizes order : List Nat) (kinds : List Kind) :
    kindNames sizes order kinds = (kindNameLists sizes order kinds).map joinComma := by
  simp only [kindNames, kindNameLists, kindRooms, List.map_map, Function.comp_def]

theorem mem_kindNameLists (sizes order : List Nat) (kinds : List Kind) (c : Nat) (name : String) :
    name ∈ (kindNameLists sizes order kinds).getD c [] ↔
      ∃ k ∈ kinds, k.name = name ∧ 0 < k.quantity ∧
        k.capacity ∈ (possibleByCourse sizes order (kindRooms kinds)).getD c [] := by
  simp only [kindNameLists, List.getD_eq_getElem?_getD, List.getElem?_map]
  cases (possibleByCourse sizes order (kindRooms kinds))[c]? with
  | none => simp
  | some l =>
    simp only [Option.map_some, Option.getD_some, List.mem_flatMap, List.mem_map, List.mem_filter,
      Bool.and_eq_true, beq_iff_eq, decide_eq_true_eq]
    constructor
    · rintro ⟨r, hr, k, ⟨hk, rfl, hq⟩, rfl⟩
      exact ⟨k, hk, rfl, hq, hr⟩
    · rintro ⟨k, hk, rfl, hq, hr⟩
      exact ⟨k.capacity, hr, k, ⟨hk, rfl, hq⟩, rfl⟩

/-- `mergeSort` is defined by well-founded recursion and does not reduce under `decide`; sorted
    forms are therefore supplied and checked through `sortDesc_eq_of` -/
theorem ex_rooms : sortDesc [4, 6, 3] = [6, 4, 3] :=
  sortDesc_eq_of (by unfold GE; decide) (by decide)

example : orderOk [3, 0, 5, 3] [2, 3, 0, 1] = true := by decide

theorem fits_eq_of {sizes rooms s r : List Nat} (hs : sortDesc (sizes.filter (· > 0)) = s)
    (hr : sortDesc rooms = r) :
    fits sizes rooms = (List.range s.length).all (fun i => decide (s.getD i 0 ≤ r.getD i 0)) := by
  subst hs hr; rfl

theorem ex_sizes : sortDesc ([3, 0, 5, 3].filter (· > 0)) = [5, 3, 3] :=
  sortDesc_eq_of (by unfold GE; decide) (by decide)

example : fits [3, 0, 5, 3] [4, 6, 3] = true := by
  rw [fits_eq_of ex_sizes ex_rooms]; decide

example : ¬ (fits [3, 0, 5, 3] [4, 6, 2] = true) := by
  rw [fits_eq_of ex_sizes (sortDesc_eq_of (s := [6, 4, 2]) (by unfold GE; decide) (by decide))]; decide

example : possibleByCourse [3, 0, 5, 3] [2, 3, 0, 1] [4, 6, 3] = [[4, 3], [], [6], [4, 3]] := by
  simp only [possibleByCourse, ex_rooms]
  decide

#print axioms possibleByCourse_nonempty
#print axioms fits_iff_feasible
#print axioms usable_alloc
#print axioms orderOk_iff
#print axioms mem_kindNameLists
#print axioms readKinds_fst_GE

end RMP
