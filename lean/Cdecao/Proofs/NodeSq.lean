import Cdecao.Proofs.NodeCols
import Cdecao.Model.NodeS
import Cdecao.Proofs.NodeInv
import Cdecao.Proofs.HungFinal
/-! The matching problem of a node: the `Inp` that `runNodeS` hands to the Hungarian model is square once
    the early exits have passed (the hypothesis `hsq` of `hung_partial`), and what its rows, columns and
    weights are in terms of the node's masks. -/
open Finset

namespace N2
open H2

theorem foldl_add_eq_sum (n : Nat) (f : Nat → Nat) :
    (List.range n).foldl (fun acc c => acc + f c) 0 = ∑ c ∈ range n, f c := by
  induction n with
  | zero => simp
  | succ n ih => rw [List.range_succ, List.foldl_append, ih, sum_range_succ]; rfl

theorem foldl_add_eq_list_sum (f : Nat → Nat) (l : List Nat) :
    l.foldl (fun acc c => acc + f c) 0 = (l.map f).sum := by
  rw [List.sum_eq_foldl, List.foldl_map]

theorem skipXBase_oob (I : Inst) (nd : Node) (hp : I.precomputeOk = true) (x : Nat) (hx : I.P ≤ x) :
    skipXBase I nd x = false :=
  Bool.eq_false_iff.2 fun h => Nat.not_lt.2 hx <| (skipXBase_eq_true_iff.1 h).elim (·.1) fun h =>
    let ⟨_, hc, _, hin⟩ := liveInstructor_iff.1 h
    instructor_lt hp (course_mem I hc) hin

theorem le_n (I : Inst) : I.P ≤ I.n := Nat.le_max_right _ _
theorem m_add_le_n (I : Inst) : I.m + I.maxSkipped ≤ I.n := Nat.le_max_left _ _

/-! `nodeInp` is unfolded only in the lemmas below about its two skip masks, its weights and `allowed`. -/

theorem skipx_get_lt (I : Inst) (nd : Node) {x : Nat} (hx : x < I.n) :
    (nodeInp I nd).skipx.get x = (skipXBase I nd x ||
      (decide (I.P ≤ x) && decide (x < I.P + (I.n - I.m + numSkipY I nd - numSkipX I nd)))) := by
  simp only [nodeInp, Vec.get_tab, hx, if_true]

theorem skipx_get (I : Inst) (nd : Node) (p : Nat) (hp : p < I.P) :
    (nodeInp I nd).skipx.get p = skipXBase I nd p := by
  rw [skipx_get_lt I nd (Nat.lt_of_lt_of_le hp (le_n I)), decide_eq_false (Nat.not_le.2 hp), Bool.false_and,
    Bool.or_false]

theorem skipy_get_lt (I : Inst) (nd : Node) {cp : Nat} (hcp : cp < I.m) :
    (nodeInp I nd).skipy.get cp = skipY I nd cp := by
  simp only [nodeInp, Vec.get_tab, hcp, if_true]

theorem wt_eq (I : Inst) (nd : Node) (x cp : Nat) (hx : x < I.n) (hcp : cp < I.m) :
    (nodeInp I nd).wt x cp = I.weight x cp := by
  simp only [Inp.wt, nodeInp, Vec.get_tab, hx, hcp, if_true]

theorem wt_eq_zero (I : Inst) (nd : Node) {x cp : Nat} (h : ¬ (x < I.n ∧ cp < I.m)) :
    (nodeInp I nd).wt x cp = 0 := by
  by_cases hx : x < I.n
  · simp only [Inp.wt, nodeInp, Vec.get_tab, hx, if_true, if_neg fun hcp => h ⟨hx, hcp⟩]; rfl
  · simp only [Inp.wt, nodeInp, Vec.get_tab, hx, if_false]; rfl

/-- the rows of the matching problem: not skipped by the node and not a surplus dummy -/
theorem rows_eq (I : Inst) (nd : Node) :
    (probOf (nodeInp I nd)).X = (range I.n).filter (fun x => (skipXBase I nd x ||
      (decide (I.P ≤ x) && decide (x < I.P + (I.n - I.m + numSkipY I nd - numSkipX I nd)))) = false) :=
  filter_congr fun x hx => by rw [skipx_get_lt I nd (mem_range.1 hx)]

theorem liveCols_eq (I : Inst) (nd : Node) :
    (probOf (nodeInp I nd)).Y = (range I.m).filter (fun cp => skipY I nd cp = false) :=
  filter_congr fun cp hcp => by rw [skipy_get_lt I nd (mem_range.1 hcp)]

theorem mem_Y_iff (I : Inst) (nd : Node) (cp : Nat) :
    cp ∈ (probOf (nodeInp I nd)).Y ↔ cp < I.m ∧ skipY I nd cp = false := by
  rw [liveCols_eq, mem_filter, mem_range]

theorem perfect_inj {I : Inst} {nd : Node} {σ : Nat → Nat} (hperf : Perfect (probOf (nodeInp I nd)) σ)
    (cp1 cp2 : Nat) (h1 : cp1 < I.m) (h2 : cp2 < I.m) (s1 : skipY I nd cp1 = false) (s2 : skipY I nd cp2 = false)
    (he : σ cp1 = σ cp2) : cp1 = cp2 :=
  hperf.inj ((mem_Y_iff I nd cp1).2 ⟨h1, s1⟩) ((mem_Y_iff I nd cp2).2 ⟨h2, s2⟩) he

theorem node_square (I : Inst) (nd : Node) (hp : I.precomputeOk = true)
    (hu : I.m + numSkipX I nd ≤ I.n + numSkipY I nd)
    (hfit : I.P + (I.n - I.m + numSkipY I nd - numSkipX I nd) ≤ I.n) :
    #(probOf (nodeInp I nd)).X = #(probOf (nodeInp I nd)).Y := by
  have hnm : I.m ≤ I.n := Nat.le_trans (Nat.le_add_right _ _) (m_add_le_n I)
  rw [rows_eq, liveCols_eq, skipY_eq]
  rw [m_eq] at hu hfit hnm ⊢
  exact Cols.square (numMaxOf I) (effMax I nd) I.C I.n I.P (skipXBase I nd)
    (fun c _ => effMax_le I nd c) (skipXBase_oob I nd hp) (numSkipX I nd) (numSkipY I nd) _
    (by rw [numSkipX, countP_range_eq_card]) (by rw [numSkipY, foldl_add_eq_sum]; rfl) hu rfl hfit hnm

#print axioms node_square

theorem node_matching {I : Inst} {nd : Node} (hg : GuardsPass I nd) {mm : Vec Nat} {hsc : Int}
    (hrun : H2.run (nodeInp I nd) = some (mm, hsc)) :
    Perfect (probOf (nodeInp I nd)) mm.get ∧ hsc = weight (probOf (nodeInp I nd)) mm.get ∧
      ∀ σ', Perfect (probOf (nodeInp I nd)) σ' → weight (probOf (nodeInp I nd)) σ' ≤ hsc :=
  hung_partial _ (node_square I nd hg.pre hg.under hg.fit) mm hsc hrun

theorem allowed_iff (I : Inst) (nd : Node) {x y : Nat} (hx : x < I.n) (hy : y < I.m) :
    allowed (nodeInp I nd) x y = true ↔ (mandY I nd y = true → x < I.P) := by
  simp only [allowed, nodeInp, Vec.get_tab, hx, hy, if_true, Bool.not_eq_true', Bool.and_eq_false_iff,
    decide_eq_false_iff_not, Nat.not_le]
  constructor
  · rintro (h | h) hm
    · exact h
    · rw [hm] at h; cases h
  · intro h
    cases hm : mandY I nd y
    · exact .inr rfl
    · exact .inl (h hm)

/-- the row a perfect matching gives to a live column: a row of the matrix that the node does not skip, and a
    participant if the column is mandatory -/
theorem perfect_row {I : Inst} {nd : Node} {σ : Nat → Nat} (hperf : Perfect (probOf (nodeInp I nd)) σ)
    {cp : Nat} (hcp : cp < I.m) (hs : skipY I nd cp = false) :
    σ cp < I.n ∧ skipXBase I nd (σ cp) = false ∧ (mandY I nd cp = true → σ cp < I.P) := by
  have hY := (mem_Y_iff I nd cp).2 ⟨hcp, hs⟩
  have hX := (mem_X _ _).1 (hperf.maps cp hY)
  have hal := hperf.allowed cp hY
  rw [probOf_allowed, allowed_iff I nd hX.1 hcp] at hal
  exact ⟨hX.1, (Bool.or_eq_false_iff.1 ((skipx_get_lt I nd hX.1).symm.trans hX.2)).1, hal⟩

theorem mem_X_real (I : Inst) (nd : Node) {x : Nat} (hx : x < I.P) :
    x ∈ (probOf (nodeInp I nd)).X ↔ skipXBase I nd x = false := by
  rw [mem_X, InX, skipx_get I nd x hx]
  exact and_iff_right (Nat.lt_of_lt_of_le hx (le_n I))

theorem realRows_eq (I : Inst) (nd : Node) :
    (probOf (nodeInp I nd)).X.filter (fun x => x < I.P) = (range I.P).filter (fun x => skipXBase I nd x = false) := by
  ext x
  simp only [mem_filter, mem_range]
  exact ⟨fun ⟨hX, hP⟩ => ⟨hP, (mem_X_real I nd hP).1 hX⟩,
    fun ⟨hP, hs⟩ => ⟨(mem_X_real I nd hP).2 hs, hP⟩⟩

/-- The matching problem of a node that has passed the early exits, as the counting lemmas
    (`exists_matching_of_placement`) see it: the real rows are the active participants, `D` are the dummy rows,
    together as many as the live columns; a map from the live columns to these rows that is injective and gives
    every mandatory column a real row is a perfect matching. -/
theorem node_problem {I : Inst} {nd : Node} (hg : GuardsPass I nd) :
    ∃ D : Finset Nat, Disjoint ((range I.P).filter (fun x => skipXBase I nd x = false)) D ∧
      #((range I.P).filter (fun x => skipXBase I nd x = false) ∪ D) = #(probOf (nodeInp I nd)).Y ∧
      ∀ σ : Nat → Nat,
        (∀ y ∈ (probOf (nodeInp I nd)).Y, σ y ∈ (range I.P).filter (fun x => skipXBase I nd x = false) ∪ D) →
        Set.InjOn σ (probOf (nodeInp I nd)).Y →
        (∀ y ∈ (probOf (nodeInp I nd)).Y.filter (fun cp => mandY I nd cp = true),
          σ y ∈ (range I.P).filter (fun x => skipXBase I nd x = false)) →
        Perfect (probOf (nodeInp I nd)) σ := by
  -- in terms of the rows `X` of the problem: the real ones (below `P`) and the others
  rw [← realRows_eq I nd]
  refine ⟨(probOf (nodeInp I nd)).X.filter (fun x => ¬ x < I.P), disjoint_filter_filter_not _ _ _, ?_,
    fun σ h1 h2 h3 => ?_⟩
  · rw [filter_union_filter_not_eq]
    exact node_square I nd hg.pre hg.under hg.fit
  · rw [filter_union_filter_not_eq] at h1
    refine ⟨h1, h2, fun y hy => ?_⟩
    rw [probOf_allowed, allowed_iff I nd ((mem_X _ _).1 (h1 y hy)).1 ((mem_Y_iff I nd y).1 hy).1]
    exact fun hm => (mem_filter.1 (h3 y (mem_filter.2 ⟨hy, hm⟩))).2

theorem numSkipX_eq (I : Inst) (nd : Node) (hp : I.precomputeOk = true) :
    numSkipX I nd = #((range I.P).filter (fun x => skipXBase I nd x = true)) := by
  rw [numSkipX, countP_range_eq_card]
  refine congrArg card (Finset.ext fun x => ?_)
  simp only [mem_filter, mem_range]
  refine ⟨fun ⟨_, hs⟩ => ⟨Nat.lt_of_not_le fun hge => ?_, hs⟩,
    fun ⟨h, hs⟩ => ⟨Nat.lt_of_lt_of_le h (le_n I), hs⟩⟩
  rw [skipXBase_oob I nd hp x hge] at hs; cases hs

theorem active_card (I : Inst) (nd : Node) (hp : I.precomputeOk = true) :
    #((range I.P).filter (fun p => skipXBase I nd p = false)) + numSkipX I nd = I.P := by
  have h1 := card_filter_add_card_filter_not (s := range I.P) (p := fun x => skipXBase I nd x = true)
  have h3 : (range I.P).filter (fun x => ¬ skipXBase I nd x = true) = (range I.P).filter (fun p => skipXBase I nd p = false) :=
    filter_congr fun x _ => by rw [Bool.not_eq_true]
  rw [h3, card_range, ← numSkipX_eq I nd hp] at h1
  omega

end N2
