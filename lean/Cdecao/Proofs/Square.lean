import Mathlib.Algebra.BigOperators.Group.Finset.Basic
import Mathlib.Data.Finset.Card
import Cdecao.Proofs.Cols
/-! The matrix handed to the Hungarian routine is square — as many non-skipped rows as
    non-skipped columns (the hypothesis `#X = #Y` of `hung_partial`), in the abstract shape of the
    mask construction of `run_bab_node`. -/
open Finset
namespace Cols

theorem inv_eq_sum (numMax : Nat → Nat) (C : Nat) : inv numMax C = ∑ c ∈ range C, numMax c := by
  induction C with
  | zero => simp [inv]
  | succ C ih => rw [inv, ih, sum_range_succ]

/-- all places are the usable ones and the skipped ones (the second sum is `num_skip_y`, caobab.rs:308-316) -/
theorem sum_eff (numMax effMax : Nat → Nat) (C : Nat) (he : ∀ c, c < C → effMax c ≤ numMax c) :
    ∑ c ∈ range C, effMax c + ∑ c ∈ range C, (numMax c - effMax c) = inv numMax C := by
  rw [inv_eq_sum, ← sum_add_distrib]
  exact sum_congr rfl fun c hc => Nat.add_sub_cancel' (he c (mem_range.1 hc))

theorem below_total (numMax f : Nat → Nat) (C : Nat) (hf : ∀ c, c < C → f c ≤ numMax c) :
    #((range (inv numMax C)).filter (fun cp => posOf numMax C cp < f (courseOf numMax C cp)))
      = ∑ c ∈ range C, f c := by
  rw [card_eq_sum_card_fiberwise (f := courseOf numMax C) (t := range C)]
  · refine sum_congr rfl fun c hc => ?_
    have hc' := mem_range.1 hc
    rw [filter_filter, cols_below numMax f C c hc' (hf c hc'), Nat.card_Ico, Nat.add_sub_cancel_left]
  · intro cp hcp
    exact mem_coe.2 (mem_range.2 (courseOf_spec numMax C cp (mem_range.1 (mem_filter.1 hcp).1)).1)

theorem live_total (numMax effMax : Nat → Nat) (C : Nat) (he : ∀ c, c < C → effMax c ≤ numMax c) :
    #((range (inv numMax C)).filter (fun cp => skipY numMax effMax C cp = false)) = ∑ c ∈ range C, effMax c := by
  rw [← below_total numMax effMax C he]
  exact congrArg card (filter_congr fun cp _ => skipY_false_iff numMax effMax C cp)

theorem mand_total (numMax numMin : Nat → Nat) (enforced : Nat → Bool) (C : Nat)
    (hm : ∀ c, c < C → enforced c = true → numMin c ≤ numMax c) :
    #((range (inv numMax C)).filter (fun cp => mandY numMax numMin enforced C cp = true))
      = ∑ c ∈ range C, (if enforced c = true then numMin c else 0) := by
  -- the threshold of a course that is not enforced is 0
  have hf : ∀ c, c < C → (if enforced c = true then numMin c else 0) ≤ numMax c := fun c hc => by
    by_cases h : enforced c = true
    · rw [if_pos h]; exact hm c hc h
    · rw [if_neg h]; exact Nat.zero_le _
  rw [← below_total numMax (fun c => if enforced c = true then numMin c else 0) C hf]
  refine congrArg card (filter_congr fun cp _ => ?_)
  rw [mandY_true_iff]
  by_cases h : enforced (courseOf numMax C cp) = true <;> simp [h]

/-- rows: the base-skipped rows lie below `P`, the surplus dummies are `P … P+extra-1` -/
theorem rows_total (n P extra : Nat) (base : Nat → Bool) (hbase : ∀ x, P ≤ x → base x = false) (hfit : P + extra ≤ n) :
    #((range n).filter (fun x => (base x || (decide (P ≤ x) && decide (x < P + extra))) = false))
      + #((range n).filter (fun x => base x = true)) + extra = n := by
  have hsplit : (range n).filter (fun x => (base x || (decide (P ≤ x) && decide (x < P + extra))) = true)
      = (range n).filter (fun x => base x = true) ∪ Ico P (P + extra) := by
    ext x
    simp only [mem_filter, mem_range, mem_union, mem_Ico, Bool.or_eq_true, Bool.and_eq_true, decide_eq_true_eq]
    exact ⟨fun ⟨hx, h⟩ => h.imp (⟨hx, ·⟩) id, fun h => h.elim (fun h => ⟨h.1, .inl h.2⟩) fun h => ⟨by omega, .inr h⟩⟩
  have hdisj : Disjoint ((range n).filter (fun x => base x = true)) (Ico P (P + extra)) :=
    disjoint_left.2 fun x hx hx' => Bool.eq_false_iff.1 (hbase x (mem_Ico.1 hx').1) (mem_filter.1 hx).2
  have hcompl := card_filter_add_card_filter_not (s := range n)
    (p := fun x => (base x || (decide (P ≤ x) && decide (x < P + extra))) = true)
  rw [hsplit, card_union_of_disjoint hdisj, Nat.card_Ico, card_range] at hcompl
  simp only [Bool.not_eq_true] at hcompl
  omega

/-- square-ness: with `extra = n - m + nsy - nsx` (caobab.rs:326) the non-skipped rows are as many as
    the non-skipped columns -/
theorem square (numMax effMax : Nat → Nat) (C n P : Nat) (base : Nat → Bool)
    (he : ∀ c, c < C → effMax c ≤ numMax c) (hbase : ∀ x, P ≤ x → base x = false)
    (nsx nsy extra : Nat) (hnsx : nsx = #((range n).filter (fun x => base x = true)))
    (hnsy : nsy = ∑ c ∈ range C, (numMax c - effMax c))
    (hu : inv numMax C + nsx ≤ n + nsy) (hextra : extra = n - inv numMax C + nsy - nsx) (hfit : P + extra ≤ n)
    (hnm : inv numMax C ≤ n) :
    #((range n).filter (fun x => (base x || (decide (P ≤ x) && decide (x < P + extra))) = false))
      = #((range (inv numMax C)).filter (fun cp => skipY numMax effMax C cp = false)) := by
  rw [live_total numMax effMax C he]
  have hr := rows_total n P extra base hbase hfit
  have hsum := sum_eff numMax effMax C he
  omega

#print axioms square
end Cols
