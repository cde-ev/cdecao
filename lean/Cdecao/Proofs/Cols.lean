import Mathlib.Data.Finset.Card
import Mathlib.Order.Interval.Finset.Nat
/-! The column structure of the place matrix (caobab.rs:116-129, 304-341):
    prefix sums, course of a column, skipped and mandatory columns, and the counts the
    gate theorem (C01 `CtxOK.cap/live`) and the relaxation bound need. -/
open Finset
namespace Cols

/-- `inverse_course_map`: first column of course `c` (prefix sum of `num_max`) -/
def inv (numMax : Nat → Nat) : Nat → Nat
  | 0 => 0
  | c + 1 => inv numMax c + numMax c

theorem inv_mono (numMax : Nat → Nat) {a b : Nat} (h : a ≤ b) : inv numMax a ≤ inv numMax b := by
  induction h with
  | refl => exact Nat.le_refl _
  | step _ ih => exact Nat.le_trans ih (by simp [inv])

/-- `course_map`: the course of column `cp` among the first `C` courses (C if none) -/
def courseOf (numMax : Nat → Nat) : Nat → Nat → Nat
  | 0, _ => 0
  | C + 1, cp => if cp < inv numMax C then courseOf numMax C cp else C

theorem courseOf_spec (numMax : Nat → Nat) : ∀ (C cp : Nat), cp < inv numMax C →
    courseOf numMax C cp < C ∧ inv numMax (courseOf numMax C cp) ≤ cp ∧
      cp < inv numMax (courseOf numMax C cp + 1) := by
  intro C
  induction C with
  | zero => intro cp h; simp [inv] at h
  | succ C ih =>
    intro cp h
    simp only [courseOf]
    by_cases hlt : cp < inv numMax C
    · simp only [hlt, if_true]
      obtain ⟨h1, h2, h3⟩ := ih cp hlt
      exact ⟨by omega, h2, h3⟩
    · simp only [hlt, if_false]
      exact ⟨by omega, by omega, h⟩

theorem courseOf_eq (numMax : Nat → Nat) (C cp c : Nat) (hc : c < C) (h1 : inv numMax c ≤ cp)
    (h2 : cp < inv numMax (c + 1)) : courseOf numMax C cp = c := by
  have hcp : cp < inv numMax C := Nat.lt_of_lt_of_le h2 (inv_mono numMax (by omega))
  obtain ⟨a, b, d⟩ := courseOf_spec numMax C cp hcp
  -- intervals of different courses are disjoint
  rcases Nat.lt_trichotomy (courseOf numMax C cp) c with h | h | h
  · have := inv_mono numMax (show courseOf numMax C cp + 1 ≤ c by omega); omega
  · exact h
  · have := inv_mono numMax (show c + 1 ≤ courseOf numMax C cp by omega); omega

def posOf (numMax : Nat → Nat) (C cp : Nat) : Nat := cp - inv numMax (courseOf numMax C cp)

/-- `skip_y`: the top `num_max - eff_max` places of each course -/
def skipY (numMax effMax : Nat → Nat) (C cp : Nat) : Bool :=
  decide (effMax (courseOf numMax C cp) ≤ posOf numMax C cp)

theorem skipY_false_iff (numMax effMax : Nat → Nat) (C cp : Nat) :
    skipY numMax effMax C cp = false ↔ posOf numMax C cp < effMax (courseOf numMax C cp) := by
  simp [skipY]

theorem cols_below (numMax f : Nat → Nat) (C c : Nat) (hc : c < C) (hf : f c ≤ numMax c) :
    (range (inv numMax C)).filter
        (fun cp => posOf numMax C cp < f (courseOf numMax C cp) ∧ courseOf numMax C cp = c)
      = Ico (inv numMax c) (inv numMax c + f c) := by
  ext cp
  rw [mem_filter, mem_range, mem_Ico]
  constructor
  · rintro ⟨hcp, hs, hco⟩
    obtain ⟨_, h2, _⟩ := courseOf_spec numMax C cp hcp
    unfold posOf at hs
    rw [hco] at hs h2
    omega
  · rintro ⟨h1, h2⟩
    have h3 : cp < inv numMax (c + 1) := by simp only [inv]; omega
    have hco := courseOf_eq numMax C cp c hc h1 h3
    refine ⟨Nat.lt_of_lt_of_le h3 (inv_mono numMax (by omega)), ?_, hco⟩
    unfold posOf; rw [hco]
    omega

theorem live_cols (numMax effMax : Nat → Nat) (C c : Nat) (hc : c < C) (he : effMax c ≤ numMax c) :
    (range (inv numMax C)).filter (fun cp => skipY numMax effMax C cp = false ∧ courseOf numMax C cp = c)
      = Ico (inv numMax c) (inv numMax c + effMax c) := by
  rw [← cols_below numMax effMax C c hc he]
  exact filter_congr fun cp _ => by rw [skipY_false_iff]

/-- C01 `CtxOK.cap`: a course has exactly `eff_max` (≤ `num_max`) non-skipped columns -/
theorem live_card (numMax effMax : Nat → Nat) (C c : Nat) (hc : c < C) (he : effMax c ≤ numMax c) :
    #((range (inv numMax C)).filter (fun cp => skipY numMax effMax C cp = false ∧ courseOf numMax C cp = c))
      = effMax c := by
  rw [live_cols numMax effMax C c hc he]; simp

/-- C01 `CtxOK.live`: a non-skipped column belongs to a course with places left (so not to a
    cancelled one, whose `eff_max` is 0) -/
theorem live_course (numMax effMax : Nat → Nat) (C cp : Nat) (hcp : cp < inv numMax C)
    (hs : skipY numMax effMax C cp = false) :
    courseOf numMax C cp < C ∧ 0 < effMax (courseOf numMax C cp) := by
  obtain ⟨h1, _, _⟩ := courseOf_spec numMax C cp hcp
  rw [skipY_false_iff] at hs
  exact ⟨h1, by omega⟩

/-- `mandatory_y`: the first `num_min` places of enforced courses; they are non-skipped as long as
    `num_min ≤ eff_max` (this is what the `assert!(!skip_y[y])` checks) and there are `num_min` of them -/
def mandY (numMax : Nat → Nat) (numMin : Nat → Nat) (enforced : Nat → Bool) (C cp : Nat) : Bool :=
  enforced (courseOf numMax C cp) && decide (posOf numMax C cp < numMin (courseOf numMax C cp))

theorem mandY_true_iff (numMax numMin : Nat → Nat) (enforced : Nat → Bool) (C cp : Nat) :
    mandY numMax numMin enforced C cp = true ↔
      enforced (courseOf numMax C cp) = true ∧ posOf numMax C cp < numMin (courseOf numMax C cp) := by
  simp [mandY]

theorem mand_cols (numMax numMin : Nat → Nat) (enforced : Nat → Bool) (C c : Nat) (hc : c < C)
    (hm : numMin c ≤ numMax c) (hen : enforced c = true) :
    (range (inv numMax C)).filter (fun cp => mandY numMax numMin enforced C cp = true ∧ courseOf numMax C cp = c)
      = Ico (inv numMax c) (inv numMax c + numMin c) := by
  rw [← cols_below numMax numMin C c hc hm]
  refine filter_congr fun cp _ => ?_
  rw [mandY_true_iff]
  exact ⟨fun h => ⟨h.1.2, h.2⟩, fun h => ⟨⟨h.2 ▸ hen, h.1⟩, h.2⟩⟩

#print axioms live_card
#print axioms mand_cols
end Cols

namespace N2

theorem countP_range_eq_card (n : Nat) (q : Nat → Bool) :
    (List.range n).countP q = ((Finset.range n).filter (fun x => q x = true)).card := by
  induction n with
  | zero => simp
  | succ n ih =>
    rw [List.range_succ, List.countP_append, ih, Finset.range_add_one, Finset.filter_insert]
    by_cases h : q n = true
    · simp [h, Finset.card_insert_of_notMem]
    · simp [h]

end N2
