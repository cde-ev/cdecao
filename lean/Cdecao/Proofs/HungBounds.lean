import Cdecao.Proofs.HungI32Conv
/-! Label bounds for the unbounded model `H2` of hungarian.rs and, from them, the simulation
    `H2.run I = some r → H2B.run B I = some r` of the unbounded model by the range-checked one
    (Cdecao/Model/HungarianI32.lean) for weights in `[0, W]` and `(2·ny + 2)·W + 1 < B`.

    Bounds (with `L = 2·ny·W`): every row label that ever occurs in a run that returns lies in `[-L, W]`,
    every column label in `[0, L + W]`, every sum `lx + ly` in `[-L, L + 2W]`, every delta
    `lx + ly - w` in `[-L - W, L + 2W]`, every partial score sum in `[0, ny·W]`. -/
namespace H2B
open H2

structure BInv (W : Int) (st : St) : Prop where
  ly0 : ∀ y, 0 ≤ st.ly.get y
  un : ∀ y, st.m.get y = false → st.ly.get y = 0
  lxW : ∀ x, st.lx.get x ≤ W

theorem default_int : (default : Int) = 0 := rfl

section relabel
variable {I : Inp} {st : St} {u : Nat} {tr : Tr} (ho : OInv I st) (ht : TInv I st u tr)
include ho ht

/-- `relabel_lx` without the range hypothesis: members of `S` are in range -/
theorem relabel_lx_all (d : Int) (x : Nat) :
    (H2.relabel I st tr d).lx.get x = if tr.s.get x then st.lx.get x - d else st.lx.get x := by
  by_cases hx : x < I.nx
  · exact relabel_lx hx
  · have hs : tr.s.get x = false := Bool.eq_false_iff.2 fun h => hx (ht.sX ho h).1
    rw [hs, Vec.get_of_size_le (by simp [H2.relabel]; omega), Vec.get_of_size_le (by rw [ho.szlx]; omega)]
    rfl

theorem relabel_ly_all (d : Int) (y : Nat) :
    (H2.relabel I st tr d).ly.get y = if tr.t.get y then st.ly.get y + d else st.ly.get y := by
  by_cases hy : y < I.ny
  · exact relabel_ly hy
  · have hs : tr.t.get y = false := Bool.eq_false_iff.2 fun h => hy (ht.tY ho h).1.1
    rw [hs, Vec.get_of_size_le (by simp [H2.relabel]; omega), Vec.get_of_size_le (by rw [ho.szly]; omega)]
    rfl

end relabel

theorem wt_bound_nonneg {I : Inp} {W : Int} (hw : ∀ x y, 0 ≤ I.wt x y ∧ I.wt x y ≤ W) : 0 ≤ W :=
  Int.le_trans (hw 0 0).1 (hw 0 0).2

theorem tight_diff {I : Inp} {W : Int} (hw : ∀ x y, 0 ≤ I.wt x y ∧ I.wt x y ≤ W) {st : St} {x x' y : Nat}
    (h : tight I st x y) (h' : tight I st x' y) :
    st.lx.get x' - W ≤ st.lx.get x ∧ st.lx.get x ≤ st.lx.get x' + W := by
  simp only [tight] at h h'
  have a := hw x y
  have b := hw x' y
  omega

/-- `x` and its grandparent row are both tight to the column between them -/
theorem tree_parent_diff (I : Inp) (W : Int) (hw : ∀ x y, 0 ≤ I.wt x y ∧ I.wt x y ≤ W) (st : St) (u : Nat) (tr : Tr)
    (rk : Nat → Nat) (ho : OInv I st) (ht : TInv I st u tr) (hp : PInv I st u tr rk)
    (x : Nat) (hx : tr.s.get x = true) (hxu : x ≠ u) :
    st.lx.get (tr.tPar.get (tr.sPar.get x)) - W ≤ st.lx.get x ∧
      st.lx.get x ≤ st.lx.get (tr.tPar.get (tr.sPar.get x)) + W := by
  obtain ⟨h1, h2⟩ := hp.spar x hx hxu
  have h4 := (ht.tY ho h1).2.2.2
  rw [h2] at h4
  exact tight_diff hw h4 (hp.tpar _ h1).2.2

/-- the rows of the tree are within `R` of the root's label; `R` grows by `W` with every growth step, so
    `R ≤ ny·W` throughout a phase -/
structure DInv (st : St) (u : Nat) (tr : Tr) (R : Int) : Prop where
  root : tr.s.get u = true
  lo : ∀ x, tr.s.get x = true → st.lx.get u - R ≤ st.lx.get x
  hi : ∀ x, tr.s.get x = true → st.lx.get x ≤ st.lx.get u + R

theorem growth_dinv {I : Inp} {W R : Int} (hw : ∀ x y, 0 ≤ I.wt x y ∧ I.wt x y ≤ W) {st : St} {u : Nat} {tr : Tr}
    {y : Nat} (ho : OInv I st) (ht : TInv I st u tr) (hz : TSz I tr)
    (hy : tr.nlxt.get y = true) (hm : st.m.get y = true) (hd : DInv st u tr R) :
    DInv st u (growTr I st tr y) (R + W) := by
  obtain ⟨_, hzX, _, htiz⟩ := ho.mrow y hm
  obtain ⟨_, _, hsnb, _, htinb⟩ := ht.nl y hy
  have e := tight_diff hw htiz htinb
  have lo := hd.lo _ hsnb
  have hi := hd.hi _ hsnb
  have mem := fun x => (growTr_s hz hzX.1 x).1
  refine ⟨(growTr_s hz hzX.1 u).2 (.inr hd.root), fun x hx => ?_, fun x hx => ?_⟩
  · rcases mem x hx with rfl | hx
    · omega
    · have := hd.lo x hx; omega
  · rcases mem x hx with rfl | hx
    · omega
    · have := hd.hi x hx; omega

/-- the labels outside the tree have not moved since the start of the phase -/
structure Pre (L W : Int) (st : St) (tr : Tr) : Prop where
  lo : ∀ x, tr.s.get x = false → -L ≤ st.lx.get x
  hi : ∀ y, tr.t.get y = false → st.ly.get y ≤ L + W

/-- what a phase that ends successfully guarantees, seen from an intermediate state `st` of the phase:
    the final labels are bounded, and the labels moved monotonically (so the bounds hold for `st` too) -/
structure Post (L W : Int) (st st' : St) : Prop where
  lo : ∀ x, -L ≤ st'.lx.get x
  hi : ∀ y, st'.ly.get y ≤ L + W
  monox : ∀ x, st'.lx.get x ≤ st.lx.get x
  monoy : ∀ y, st.ly.get y ≤ st'.ly.get y
  un : ∀ y, st'.m.get y = false → st'.ly.get y = 0

structure Bnd (L W : Int) (st : St) : Prop where
  lxlo : ∀ x, -L ≤ st.lx.get x
  lxhi : ∀ x, st.lx.get x ≤ W
  lylo : ∀ y, 0 ≤ st.ly.get y
  lyhi : ∀ y, st.ly.get y ≤ L + W

section
variable {I : Inp} {W L B R : Int} {st st1 st' : St} {u y : Nat} {tr tr1 : Tr}

theorem Post.binv (h : Post L W st st') (hb : BInv W st) : BInv W st' :=
  ⟨fun y => Int.le_trans (hb.ly0 y) (h.monoy y), h.un, fun x => Int.le_trans (h.monox x) (hb.lxW x)⟩

theorem Post.bnd (h : Post L W st st') (hb : BInv W st) : Bnd L W st :=
  ⟨fun x => Int.le_trans (h.lo x) (h.monox x), hb.lxW, hb.ly0, fun y => Int.le_trans (h.monoy y) (h.hi y)⟩

theorem growth_pre (hz : TSz I tr) (hzX : st.mm.get y < I.nx) (hyY : y < I.ny) (hp : Pre L W st tr) :
    Pre L W st (growTr I st tr y) :=
  ⟨fun x hx => hp.lo x (Bool.eq_false_iff.2 fun h => Bool.eq_false_iff.1 hx ((growTr_s hz hzX x).2 (.inr h))),
    fun y' hy' => hp.hi y' (Bool.eq_false_iff.2 fun h => Bool.eq_false_iff.1 hy' ((growTr_t hz hyY y').2 (.inr h)))⟩

/-- the sign, tree-distance and outside-the-tree bounds survive `pick`: on a label update `lx` only
    decreases (on `S`, all by the same amount), `ly` only increases (on `T`); columns outside `T` – in
    particular all unmatched ones – and rows outside `S` keep their label -/
theorem pick_bounds (ho : OInv I st) (ht : TInv I st u tr) (hb : BInv W st) (hd : DInv st u tr R)
    (hpre : Pre L W st tr) (hpk : H2.pick I st tr = some (st1, tr1, y)) :
    BInv W st1 ∧ DInv st1 u tr1 R ∧ Pre L W st1 tr1 ∧
      (∀ x, st1.lx.get x ≤ st.lx.get x) ∧ ∀ y, st.ly.get y ≤ st1.ly.get y := by
  obtain ⟨-, ⟨rfl, rfl⟩ | ⟨d, he, hdm, rfl, rfl⟩⟩ := pick_eq_some ht.szN hpk
  · exact ⟨hb, hd, hpre, fun _ => Int.le_refl _, fun _ => Int.le_refl _⟩
  · have hd0 := dmin_nonneg ho ht he hdm
    have lx := relabel_lx_all ho ht d
    have ly := relabel_ly_all ho ht d
    have tun : ∀ y, st.m.get y = false → tr.t.get y = false := fun y hm =>
      Bool.eq_false_iff.2 fun h => by simp [(ht.tT y h).1] at hm
    refine ⟨⟨fun y => ?_, fun y hm => ?_, fun x => ?_⟩, ⟨hd.root, fun x hx => ?_, fun x hx => ?_⟩,
      ⟨fun x hx => ?_, fun y hy => ?_⟩, fun x => ?_, fun y => ?_⟩
    · rw [ly]; have := hb.ly0 y; split <;> omega
    · rw [ly, tun y hm]; exact hb.un y hm
    · rw [lx]; have := hb.lxW x; split <;> omega
    · rw [lx, lx, hd.root, show tr.s.get x = true from hx]; have := hd.lo x hx; simp only [if_true]; omega
    · rw [lx, lx, hd.root, show tr.s.get x = true from hx]; have := hd.hi x hx; simp only [if_true]; omega
    · rw [lx, show tr.s.get x = false from hx]; exact hpre.lo x hx
    · rw [ly, show tr.t.get y = false from hy]; exact hpre.hi y hy
    · rw [lx]; split <;> omega
    · rw [ly]; split <;> omega

variable (hw : ∀ x y, 0 ≤ I.wt x y ∧ I.wt x y ≤ W) (hW : 0 ≤ W) (hB : L + 2 * W + 1 < B)

include hW hB in
theorem Bnd.sum (hb : Bnd L W st) (x y : Nat) :
    -B ≤ st.lx.get x + st.ly.get y ∧ st.lx.get x + st.ly.get y < B := by
  have b1 := hb.lxlo x
  have b2 := hb.lxhi x
  have b3 := hb.lylo y
  have b4 := hb.lyhi y
  omega

include hw hW hB in
theorem scanStep_sim (hb : Bnd L W st) (x : Nat) (acc : Scan) (y : Nat) :
    scanStep B I st tr x acc y = some (H2.scanStep I st tr x acc y) := by
  have s := hb.sum hW hB x y
  -- the delta is representable and stays below the sentinel `B - 1`
  have hd : -B ≤ st.lx.get x + st.ly.get y - I.wt x y ∧ st.lx.get x + st.ly.get y - I.wt x y < B - 1 := by
    have a := hw x y
    have b1 := hb.lxlo x
    have b2 := hb.lxhi x
    have b3 := hb.lylo y
    have b4 := hb.lyhi y
    omega
  unfold scanStep H2.scanStep
  by_cases hc : (!tr.t.get y && !I.skipy.get y && allowed I x y) = true
  · rw [if_pos hc, if_pos hc, chk_some s.1 s.2]
    simp only
    rw [chk_some hd.1 (Int.lt_trans hd.2 (Int.sub_lt_self _ Int.one_pos))]
    simp only
    rw [if_neg (Int.ne_of_lt hd.2)]
    rfl
  · rw [if_neg hc, if_neg hc]

include hw hW hB in
theorem scan_sim (hb : Bnd L W st) : scan B I st tr = some (H2.scan I st tr) := by
  rw [H2.scan_eq]
  unfold scan
  apply foldlM_sim
  intro acc x _
  unfold scanRow H2.scanRow
  split
  · apply foldlM_sim
    intro acc y _
    exact scanStep_sim hw hW hB hb x acc y
  · rfl

theorem relabel_sim {B : Int} {I : Inp} {st : St} {tr : Tr} {d : Int}
    (hx : ∀ x, -B ≤ (H2.relabel I st tr d).lx.get x ∧ (H2.relabel I st tr d).lx.get x < B)
    (hy : ∀ y, -B ≤ (H2.relabel I st tr d).ly.get y ∧ (H2.relabel I st tr d).ly.get y < B) :
    relabel B I st tr d = some (H2.relabel I st tr d) := by
  unfold relabel
  rw [tabM_some (fun x => if tr.s.get x then st.lx.get x - d else st.lx.get x)
      fun i hi => have h := relabel_lx hi ▸ hx i; chk_some h.1 h.2,
    tabM_some (fun y => if tr.t.get y then st.ly.get y + d else st.ly.get y)
      fun i hi => have h := relabel_ly hi ▸ hy i; chk_some h.1 h.2]
  rfl

include hW hB in
theorem sumsOk_sim (hb : Bnd L W st) (z : Nat) : sumsOk B I st z = true := by
  unfold sumsOk
  exact all_range.2 fun y _ => by have := hb.sum hW hB z y; rw [chk_some (by omega) (by omega)]; rfl

include hW hB in
theorem initTr_sim (hb : Bnd L W st) (u : Nat) : H2B.initTr B I st u = some (H2.initTr I st u) := by
  unfold H2B.initTr
  rw [if_pos]
  exact all_range.2 fun y _ => by have := hb.sum hW hB u y; rw [chk_some this.1 this.2]; rfl

include hw hW hB in
theorem pick_sim (hb : Bnd L W st) (hb1 : Bnd L W st1) (hpk : H2.pick I st tr = some (st1, tr1, y)) :
    pick B I st tr = some (st1, tr1, y) := by
  unfold H2.pick at hpk
  unfold pick
  split at hpk
  · next hf => simpa only [hf] using hpk
  · next hf =>
    simp only [hf]
    rw [scan_sim hw hW hB hb]
    split at hpk
    · cases hpk
    · next d hdm =>
      simp only [hdm]
      split at hpk
      · cases hpk
      · next hf2 =>
        cases hpk
        rw [relabel_sim
          (fun x => by have := hb1.lxlo x; have := hb1.lxhi x; omega)
          (fun y => by have := hb1.lylo y; have := hb1.lyhi y; omega)]
        simp only [hf2]

include hw in
/-- the augmenting step ends the phase: all labels are within the bounds there. The row through which the
    unmatched column `y` (with `ly y = 0`) was reached has a non-negative label, every row of `S` is within
    `R ≤ ny·W` of the root and hence within `2·ny·W ≤ L` of that row; a column of `T` is tight to its partner. -/
theorem end_post (hL : 2 * ((I.ny : Int) * W) ≤ L) (ho : OInv I st) (ht : TInv I st u tr) (hb : BInv W st)
    (hd : DInv st u tr R) (hR : R ≤ (I.ny : Int) * W) (hpre : Pre L W st tr) (hy : tr.nlxt.get y = true)
    (hm : st.m.get y = false) (mm' : Vec Nat) :
    Post L W st { st with m := st.m.set y true, mm := mm' } := by
  obtain ⟨_, _, hsnb, _, htinb⟩ := ht.nl y hy
  have hly0 : st.ly.get y = 0 := hb.un y hm
  have hx0 : 0 ≤ st.lx.get (tr.nb.get y) := by
    simp only [tight] at htinb
    have := hw (tr.nb.get y) y
    omega
  have hlo : ∀ x, -L ≤ st.lx.get x := by
    intro x
    cases hs : tr.s.get x with
    | false => exact hpre.lo x hs
    | true =>
      have := hd.lo x hs
      have := hd.hi _ hsnb
      omega
  have hhi : ∀ y', st.ly.get y' ≤ L + W := by
    intro y'
    cases hs : tr.t.get y' with
    | false => exact hpre.hi y' hs
    | true =>
      obtain ⟨_, _, _, hti⟩ := ht.tY ho hs
      simp only [tight] at hti
      have := hlo (st.mm.get y')
      have := hw (st.mm.get y') y'
      omega
  refine ⟨hlo, hhi, fun x => Int.le_refl _, fun y => Int.le_refl _, fun y' hy' => hb.un y' ?_⟩
  simp only [Vec.get_set] at hy'
  split at hy'
  · cases hy'
  · exact hy'
end

/-- what `grow_sim` proves by induction on the fuel; the bounds for the current step come from the
    post-condition of the recursive call (success of the rest of the phase) together with monotonicity -/
def GrowSim (I : Inp) (W L B : Int) (u fuel : Nat) : Prop :=
  ∀ (st : St) (tr : Tr) (rk : Nat → Nat) (R : Int) (st' : St),
    OInv I st → TInv I st u tr → PInv I st u tr rk → TSz I tr → BInv W st → DInv st u tr R → 0 ≤ R →
    R + (fuel : Int) * W ≤ (I.ny : Int) * W + W → Pre L W st tr →
    H2.grow I u fuel st tr = some st' → H2B.grow B I u fuel st tr = some st' ∧ Post L W st st'

theorem natsucc_mul (k : Nat) (W : Int) : ((k + 1 : Nat) : Int) * W = (k : Int) * W + W := by
  rw [Int.natCast_succ, Int.add_mul, Int.one_mul]

theorem grow_sim (I : Inp) (W L B : Int) (hw : ∀ x y, 0 ≤ I.wt x y ∧ I.wt x y ≤ W) (hW : 0 ≤ W)
    (hL : 2 * ((I.ny : Int) * W) ≤ L) (hB : L + 2 * W + 1 < B) (u : Nat) :
    ∀ fuel, GrowSim I W L B u fuel := by
  intro fuel
  induction fuel with
  | zero => intro st tr rk R st' _ _ _ _ _ _ _ _ _ h; simp [H2.grow] at h
  | succ fuel ih =>
    intro st tr rk R st' ho ht hp hz hb hd hR hbud hpre h
    rw [H2.grow_succ] at h
    rw [growB_succ]
    rw [natsucc_mul] at hbud
    have hf0 : 0 ≤ (fuel : Int) * W := Int.mul_nonneg (Int.natCast_nonneg _) hW
    split at h
    · cases h
    · next st1 tr1 y hpk =>
      obtain ⟨hb1, hd1, hpre1, mx, my⟩ := pick_bounds ho ht hb hd hpre hpk
      obtain ⟨-, -, -, -, -, -, ho1, ht1, hp1, hz1, hy⟩ := pick_inv ho ht hp hz hpk
      have key : H2.tail I u (fun st2 tr2 => if sumsOk B I st2 (st2.mm.get y) then H2B.grow B I u fuel st2 tr2
          else none) st1 tr1 y = some st' ∧ Post L W st1 st' := by
        rcases tail_eq_some.1 h with ⟨hm, h⟩ | ⟨hm, mm', haug, rfl⟩
        · obtain ⟨a, b, c⟩ := growth_step I st1 u tr1 rk y ho1 ht1 hp1 hz1 hy hm
          obtain ⟨hB', hpost⟩ := ih st1 (growTr I st1 tr1 y) _ (R + W) st' ho1 a b c hb1
            (growth_dinv hw ho1 ht1 hz1 hy hm hd1) (by omega) (by omega)
            (growth_pre hz1 (ho1.mrow y hm).2.1.1 (ht1.nl y hy).1.1 hpre1) h
          exact ⟨tail_eq_some.2 (.inl ⟨hm, by rw [if_pos (sumsOk_sim hW hB (hpost.bnd hb1) _)]; exact hB'⟩), hpost⟩
        · exact ⟨tail_eq_some.2 (.inr ⟨hm, mm', haug, rfl⟩),
            end_post hw hL ho1 ht1 hb1 hd1 (by omega) hpre1 hy hm mm'⟩
      obtain ⟨hB', hpost1⟩ := key
      -- by monotonicity the post-condition, and with it the bounds, hold from the current state too
      have hpost : Post L W st st' := ⟨hpost1.lo, hpost1.hi, fun x => Int.le_trans (hpost1.monox x) (mx x),
        fun y => Int.le_trans (my y) (hpost1.monoy y), hpost1.un⟩
      rw [pick_sim hw hW hB (hpost.bnd hb) (hpost1.bnd hb1) hpk]
      exact ⟨hB', hpost⟩

#print axioms grow_sim

theorem initTr_t (I : Inp) (st : St) (u : Nat) (y : Nat) : (H2.initTr I st u).t.get y = false :=
  Vec.get_const_default I.ny y

structure OutB (I : Inp) (W L : Int) (free : List Nat) (st : St) : Prop where
  out : OutInv I free st
  binv : BInv W st
  lo : ∀ x, -L ≤ st.lx.get x
  hi : ∀ y, st.ly.get y ≤ L + W

theorem outer_sim {I : Inp} {W L B : Int} (hw : ∀ x y, 0 ≤ I.wt x y ∧ I.wt x y ≤ W) (hW : 0 ≤ W)
    (hL : 2 * ((I.ny : Int) * W) ≤ L) (hB : L + 2 * W + 1 < B) :
    ∀ (free : List Nat) (st st' : St), OutB I W L free st → (∀ u ∈ free, InX I u) → free.Nodup →
      H2.outer I free st = some st' → H2B.outer B I free st = some st' ∧ OutB I W L [] st' := by
  intro free
  induction free with
  | nil => intro st st' h _ _ hres; cases hres; exact ⟨rfl, h⟩
  | cons u rest ih =>
    intro st st' hob hX hnd hres
    simp only [H2.outer] at hres
    split at hres
    · cases hres
    · next st1 hg =>
      have huX := hX u List.mem_cons_self
      have hnd' := List.nodup_cons.1 hnd
      obtain ⟨a, b, c⟩ := initTr_inv hob.out huX
      have hd : DInv st u (H2.initTr I st u) 0 := by
        have root : ∀ x, (H2.initTr I st u).s.get x = true → x = u := fun x => (initTr_s huX.1).1
        exact ⟨(initTr_s huX.1).2 rfl, fun x hx => by rw [root x hx]; omega, fun x hx => by rw [root x hx]; omega⟩
      obtain ⟨hgB, hpost⟩ := grow_sim I W L B hw hW hL hB u (I.ny + 1) st (H2.initTr I st u) _ 0 st1
        hob.out.inv a b c hob.binv hd (Int.le_refl _) (by rw [natsucc_mul]; omega)
        ⟨fun x _ => hob.lo x, fun y _ => hob.hi y⟩ hg
      have hob1 : OutB I W L rest st1 :=
        ⟨(phase_outInv hob.out huX hnd'.1 hg).1, hpost.binv hob.binv, hpost.lo, hpost.hi⟩
      obtain ⟨hrest, hfin⟩ := ih st1 st' hob1 (fun v hv => hX v (List.mem_cons_of_mem _ hv)) hnd'.2 hres
      refine ⟨?_, hfin⟩
      simp only [H2B.outer]
      rw [initTr_sim hW hB ⟨hob.lo, hob.binv.lxW, hob.binv.ly0, hob.hi⟩ u]
      simp only [hgB]
      exact hrest

section run
variable {I : Inp} {W : Int} (hw : ∀ x y, 0 ≤ I.wt x y ∧ I.wt x y ≤ W)
include hw

theorem rowMax_sim {B : Int} (hB : W < B) (x : Nat) :
    H2B.rowMax B I x = some (H2.rowMax I x) ∧ 0 ≤ H2.rowMax I x ∧ H2.rowMax I x ≤ W := by
  unfold H2B.rowMax H2.rowMax
  have hW := wt_bound_nonneg hw
  refine List.foldlM_range_sim (fun _ acc => 0 ≤ acc ∧ acc ≤ W) ⟨Int.le_refl _, hW⟩ ?_
  intro i b _ hb
  have a := hw x i
  have m0 : 0 ≤ max b (I.wt x i) := Int.le_trans hb.1 (Int.le_max_left _ _)
  have mW : max b (I.wt x i) ≤ W := Int.max_le.2 ⟨hb.2, a.2⟩
  rw [chk_some (by omega) (by omega)]
  simp only
  rw [chk_some (Int.le_trans (by omega) m0) (Int.lt_of_le_of_lt mW hB)]
  exact ⟨rfl, m0, mW⟩

theorem score_sim {B : Int} (hB : (I.ny : Int) * W < B) (mm : Vec Nat) :
    score B I mm = some (scoreSum I mm) ∧ 0 ≤ scoreSum I mm ∧ scoreSum I mm ≤ (I.ny : Int) * W := by
  unfold score
  have hW := wt_bound_nonneg hw
  refine List.foldlM_range_sim (fun i acc => 0 ≤ acc ∧ acc ≤ (i : Int) * W) ⟨Int.le_refl _, by simp⟩ ?_
  intro i b hi hb
  have a := hw (mm.get i) i
  have e := natsucc_mul i W
  have hle : ((i + 1 : Nat) : Int) * W ≤ (I.ny : Int) * W :=
    Int.mul_le_mul_of_nonneg_right (Int.ofNat_le.2 hi) hW
  by_cases hs : I.skipy.get i = true
  · simp only [hs, if_true]
    exact ⟨trivial, hb.1, by omega⟩
  · simp only [hs]
    have s0 : 0 ≤ b + I.wt (mm.get i) i := Int.add_nonneg hb.1 a.1
    have sW : b + I.wt (mm.get i) i ≤ ((i + 1 : Nat) : Int) * W := by omega
    rw [chk_some (by omega) (by omega)]
    exact ⟨rfl, s0, sW⟩

theorem outer_sim_init {L B : Int} (hL : 2 * ((I.ny : Int) * W) ≤ L) (hB : L + 2 * W + 1 < B) {st : St}
    (h : H2.outer I (freeRows I) (initSt I) = some st) :
    H2B.outer B I (freeRows I) (initSt I) = some st ∧ OutB I W L [] st := by
  have hW := wt_bound_nonneg hw
  have hnW : 0 ≤ (I.ny : Int) * W := Int.mul_nonneg (Int.natCast_nonneg _) hW
  have l0 : ∀ y, (initSt I).ly.get y = 0 := Vec.get_const_default I.ny
  have lx0 : ∀ x, 0 ≤ (initSt I).lx.get x ∧ (initSt I).lx.get x ≤ W := by
    intro x
    simp only [initSt, Vec.get_tab]
    split
    · exact (rowMax_sim hw (Int.lt_succ W) x).2
    · exact ⟨Int.le_refl _, hW⟩
  refine outer_sim hw hW hL hB _ _ st ⟨init_outInv I, ⟨fun y => by rw [l0]; exact Int.le_refl _, fun y _ => l0 y,
    fun x => (lx0 x).2⟩, fun x => ?_, fun y => ?_⟩ (fun _ => mem_freeRows.1) (freeRows_nodup I) h
  · have := (lx0 x).1; omega
  · rw [l0]; omega
end run

theorem run_sim (I : Inp) (W B : Int) (hw : ∀ x y, 0 ≤ I.wt x y ∧ I.wt x y ≤ W)
    (hB : (2 * (I.ny : Int) + 2) * W + 1 < B) (r : Vec Nat × Int) (h : H2.run I = some r) :
    H2B.run B I = some r := by
  have hW := wt_bound_nonneg hw
  have hnW : 0 ≤ (I.ny : Int) * W := Int.mul_nonneg (Int.natCast_nonneg _) hW
  rw [Int.add_mul, Int.mul_assoc] at hB
  rw [run_eq_outer] at h
  unfold H2B.run
  rw [tabM_some (H2.rowMax I) (fun i _ => (rowMax_sim hw (by omega) i).1)]
  split at h
  · cases h
  · next st ho =>
    have hoB := (outer_sim_init hw (Int.le_refl _) (by omega) ho).1
    simp only [freeRows, initSt] at hoB
    simp only [hoB, (score_sim (B := B) hw (by omega) st.mm).1]
    exact h

theorem run_eq (I : Inp) (W B : Int) (hw : ∀ x y, 0 ≤ I.wt x y ∧ I.wt x y ≤ W)
    (hB : (2 * (I.ny : Int) + 2) * W + 1 < B) : H2B.run B I = H2.run I :=
  Option.ext fun r => ⟨run_conv B I r, run_sim I W B hw hB r⟩

/-- The range-checked model with the *smallest* admissible bound `B = (2·ny + 2)·W + 2` already agrees with the
    unbounded model: in a run that returns, every intermediate value (labels, sums `lx + ly`, deltas, partial
    score sums) lies in `[-B, B)`; a run that fails, fails in both. -/
theorem run_values_bounded (I : Inp) (W : Int) (hw : ∀ x y, 0 ≤ I.wt x y ∧ I.wt x y ≤ W) :
    H2B.run ((2 * (I.ny : Int) + 2) * W + 2) I = H2.run I :=
  run_eq I W _ hw (by omega)

/-- Label bounds at the end of a run of the outer loop (and, by `Post.monox`/`Post.monoy` in `grow_sim`,
    throughout): `lx ∈ [-2·ny·W, W]`, `ly ∈ [0, (2·ny + 1)·W]`. -/
theorem outer_bounds (I : Inp) (W : Int) (hw : ∀ x y, 0 ≤ I.wt x y ∧ I.wt x y ≤ W) (st' : St)
    (h : H2.outer I ((List.range I.nx).filter (fun x => !I.skipx.get x)).reverse
      { lx := Vec.tab I.nx (H2.rowMax I), ly := Vec.const I.ny 0, m := Vec.const I.ny false, mm := Vec.const I.ny 0 }
      = some st') :
    (∀ x, -(2 * ((I.ny : Int) * W)) ≤ st'.lx.get x ∧ st'.lx.get x ≤ W) ∧
    (∀ y, 0 ≤ st'.ly.get y ∧ st'.ly.get y ≤ 2 * ((I.ny : Int) * W) + W) := by
  obtain ⟨_, hfin⟩ := outer_sim_init hw (Int.le_refl _) (Int.lt_succ _) h
  exact ⟨fun x => ⟨hfin.lo x, hfin.binv.lxW x⟩, fun y => ⟨hfin.binv.ly0 y, hfin.hi y⟩⟩

theorem run_score_bounds (I : Inp) (W : Int) (hw : ∀ x y, 0 ≤ I.wt x y ∧ I.wt x y ≤ W) (mm : Vec Nat) (sc : Int)
    (h : H2.run I = some (mm, sc)) : 0 ≤ sc ∧ sc ≤ (I.ny : Int) * W := by
  rw [run_eq_outer] at h
  split at h
  · cases h
  · cases h; exact (score_sim hw (Int.lt_succ _) _).2

/-- a 3×3 instance with a dummy row and a mandatory column; the run needs label updates
    (final labels `lx = [7, 4, 7]`, `ly = [0, 1, 0]`) -/
def exI : Inp :=
  { nx := 3, ny := 3,
    w := ⟨#[⟨#[7, 5, 3]⟩, ⟨#[7, 5, 4]⟩, ⟨#[7, 8, 1]⟩]⟩,
    dummy := ⟨#[false, true, false]⟩, mand := ⟨#[true, false, false]⟩,
    skipx := ⟨#[false, false, false]⟩, skipy := ⟨#[false, false, false]⟩ }

/-- the weight hypothesis of `run_sim` holds for `exI` with `W = 8` (indices out of range read `0`) -/
theorem exI_wt : ∀ x y, 0 ≤ exI.wt x y ∧ exI.wt x y ≤ 8 := by
  intro x y
  have h : ∀ x, x < 3 → ∀ y, y < 3 → 0 ≤ exI.wt x y ∧ exI.wt x y ≤ 8 := by decide
  have hs : ∀ x, x < 3 → (exI.w.get x).size = 3 := by decide
  by_cases hx : x < 3
  · by_cases hy : y < 3
    · exact h x hx y hy
    · unfold Inp.wt
      rw [Vec.get_of_size_le (by rw [hs x hx]; omega)]; decide
  · unfold Inp.wt
    rw [Vec.get_of_size_le (v := exI.w) (by show 3 ≤ x; omega), Vec.get_of_size_le (Nat.zero_le _)]; decide

theorem exI_run : (H2.run exI).map (fun r => (r.1.a, r.2)) = some (#[0, 2, 1], 19) := by decide +kernel
theorem exI_run32 : (H2B.run (2^31) exI).map (fun r => (r.1.a, r.2)) = some (#[0, 2, 1], 19) := by decide +kernel
/-- with `B = 19` the score `19` is not representable -/
theorem exI_run19 : (H2B.run 19 exI).isNone = true := by decide +kernel

example : (H2B.run (2^31) exI).map (fun r => (r.1.a, r.2)) = some (#[0, 2, 1], 19) := exI_run32
example : (H2.run exI).map (fun r => (r.1.a, r.2)) = some (#[0, 2, 1], 19) := exI_run
/-- `run_sim` applied to `exI` (all hypotheses hold: `W = 8`, `(2·3+2)·8 + 1 = 65 < 2^31`) -/
example : ∃ r, H2.run exI = some r ∧ H2B.run (2^31) exI = some r := by
  obtain ⟨r, hr, _⟩ := Option.map_eq_some_iff.1 exI_run
  exact ⟨r, hr, run_sim exI 8 (2^31) exI_wt (by decide) r hr⟩
/-- the smallest bound allowed by `run_sim` for `exI` is `66`; the checked routine indeed succeeds there … -/
example : (H2B.run 66 exI).map (fun r => (r.1.a, r.2)) = some (#[0, 2, 1], 19) := by decide +kernel
/-- … and tiny bounds make it fail: with `B = 19` the score `19` is not representable, with `B = 8` the
    initial label `8` of row 2 is not -/
example : (H2B.run 19 exI).isNone = true := exI_run19
example : (H2B.run 8 exI).isNone = true := by decide
/-- the sentinel: with `B = 6` the delta `5 + 0 - 0 = 5 = B - 1` is representable but equals `LARGE_LABEL`,
    so the checked scan step fails; with `B = 7` it succeeds -/
example :
    let I : Inp := { nx := 1, ny := 1, w := ⟨#[⟨#[0]⟩]⟩, dummy := ⟨#[false]⟩, mand := ⟨#[false]⟩,
                     skipx := ⟨#[false]⟩, skipy := ⟨#[false]⟩ }
    let st : St := { lx := ⟨#[5]⟩, ly := ⟨#[0]⟩, m := ⟨#[false]⟩, mm := ⟨#[0]⟩ }
    let tr : Tr := { s := ⟨#[true]⟩, sPar := ⟨#[0]⟩, t := ⟨#[false]⟩, tPar := ⟨#[0]⟩, nlxt := ⟨#[false]⟩, nb := ⟨#[0]⟩ }
    (chk 6 5).isSome = true ∧ (scan 6 I st tr).isNone = true ∧ ((scan 7 I st tr).map (·.dmin)) = some (some 5) := by
  decide

#print axioms run_sim
#print axioms run_eq
#print axioms run_values_bounded
#print axioms outer_bounds
#print axioms run_score_bounds

end H2B
