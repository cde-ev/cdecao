import Cdecao.Proofs.Gate
import Cdecao.Proofs.Score
import Cdecao.Proofs.NodeSq
import Cdecao.Proofs.NodeChildren
/-! What a feasible verdict of `runNodeS` is worth (C01, C08 at node level). The context of the gate and score
    theorems (`G.CtxOK`, `G.ScoreCtx`) holds for the matching of a node; `checkFeas … = ok (true, …)` is the
    gate; hence the reported list satisfies the hard constraints and the reported score is its documented
    score. -/
namespace N2
open H2

section
open Finset
def ctxOf (I : Inst) (nd : Node) (mm : Nat → Nat) : G.Ctx :=
  { m := I.m, cancelled := nd.cancelled, skipY := skipY I nd, courseMap := I.colCourse, mm := mm }

theorem assign_eq (I : Inst) (nd : Node) (mm : Nat → Nat) : assign I nd mm = G.assign I (ctxOf I nd mm) := rfl

/-- what the node theorems ask of an instance: `pre` is `check_data_consistency` (io.rs), which `main`
    runs on every input (repair of finding F5); `oneCourse` is guaranteed by the CdE reader and stays a
    hypothesis for the simple format -/
structure InstOK (I : Inst) : Prop where
  pre : I.precomputeOk = true
  oneCourse : ∀ p c c', c < I.C → c' < I.C → I.instructs p c = true → I.instructs p c' = true → c = c'

theorem instructs_lt (I : Inst) {p c : Nat} (h : I.instructs p c = true) : c < I.C := by
  by_contra hc
  have : I.course c = default := by
    simp only [Inst.course, Inst.C] at hc ⊢
    simp [List.getD_eq_getElem?_getD, List.getElem?_eq_none (Nat.le_of_not_lt hc)]
  rw [Inst.instructs, this] at h
  exact absurd h (by simp [default])

theorem instr_range (I : Inst) (hp : I.precomputeOk = true) {p c : Nat} (hc : c < I.C)
    (h : I.instructs p c = true) : p < I.P :=
  instructor_lt hp (course_mem I hc) (List.contains_iff_mem.1 h)

theorem isInstr_eq (I : Inst) (nd : Node) (mm : Nat → Nat) (p : Nat) (hp : p < I.P) :
    G.isInstr I (ctxOf I nd mm) p = skipXBase I nd p := by
  simp [G.isInstr, skipXBase, liveInstructor, ctxOf, Inst.hasChoices, Inst.instructorOnly, Inst.instructs, hp]

theorem skipXBase_false_iff (I : Inst) (nd : Node) {p : Nat} (hp : p < I.P) :
    skipXBase I nd p = false ↔
      I.hasChoices p = true ∧ ∀ c, c < I.C → c ∉ nd.cancelled → I.instructs p c = false := by
  rw [← isInstr_eq I nd (fun _ => 0) p hp]
  exact G.isInstr_false_iff

theorem ctxOK (I : Inst) (nd : Node) (hI : InstOK I) (hn : NodeOK I nd) (mm : Vec Nat)
    (hperf : Perfect (probOf (nodeInp I nd)) mm.get) : G.CtxOK I (ctxOf I nd mm.get) := by
  refine ⟨?_, ?_, ?_, ?_, ?_, ?_, ?_⟩
  · intro p c c' h h'
    exact hI.oneCourse p c c' (instructs_lt I h) (instructs_lt I h') h h'
  · intro p c hc h; exact instr_range I hI.pre hc h
  · exact hn
  · -- the fields of `ctxOf` are exposed first: left to the unifier, each is unfolded several times
    dsimp only [ctxOf]
    exact fun cp hcp hs => colCourse_live hcp hs
  · intro c hc
    show #((range I.m).filter (fun cp => skipY I nd cp = false ∧ I.colCourse cp = c)) ≤ (I.course c).numMax
    rw [live_card I nd c hc]
    exact effMax_le I nd c
  · dsimp only [ctxOf]
    exact perfect_inj hperf
  · intro cp hcp hs hlt
    exact (isInstr_eq I nd mm.get _ hlt).trans (perfect_row hperf hcp hs).2.1

#print axioms ctxOK
end

theorem checkFeas_gate (I : Inst) (nd : Node) (mm : Nat → Nat) (a : Nat → Option Nat) (isI : Nat → Bool)
    (hisI : ∀ p, p < I.P → isI p = skipXBase I nd p) (ha : ∀ p, p < I.P → a p = assign I nd mm p)
    (b : Bool) (c : Option Nat) (h : checkFeas I nd a isI = .ok (true, b, c)) :
    G.gateOk I (ctxOf I nd mm) = true := by
  have hsize : ∀ c, sizeOf I a isI c = G.size I (ctxOf I nd mm) c := by
    intro c
    unfold sizeOf G.size
    apply List.countP_congr
    intro p hp
    have hp' := List.mem_range.1 hp
    rw [hisI p hp', ha p hp', isInstr_eq I nd mm p hp', assign_eq]
  rcases checkFeas_eq_ok h with ⟨_, -, hb, -⟩ | ⟨hw, -, -, hbt, -⟩
  · cases hb
  obtain ⟨-, hv⟩ := hbt rfl
  refine G.gateOk_iff.2 ⟨fun p hp => ?_, fun c hc => ?_⟩
  · rw [isInstr_eq I nd mm p hp]
    refine or_iff_not_imp_left.2 fun hact => ?_
    -- an active participant with own choices: the check has looked at them
    have h1 : isI p = false := (hisI p hp).trans (Bool.eq_false_iff.2 hact)
    have h2 : I.instructorOnly p = false :=
      Bool.eq_false_iff.2 fun h2 => hact (skipXBase_eq_true_iff.2 (.inl ⟨hp, h2⟩))
    have := wrongOf_none hw hp h1 h2
    rw [ha p hp, assign_eq] at this
    exact this
  · refine or_iff_not_imp_left.2 fun hcc => Nat.le_of_not_lt fun hlt => ?_
    have : c ∈ violOf I nd a isI := mem_violOf.2 ⟨hc, hcc, hsize c ▸ hlt⟩
    rw [hv] at this; cases this

#print axioms checkFeas_gate

/-- what a feasible verdict `(al, sc)` of node `nd` rests on, in terms of the matching `mm` with score `hsc` that
    the node computed: the matching is perfect and passes the gate, the reported list is the model's assignment
    of it and satisfies the hard constraints -/
structure FeasibleBy (I : Inst) (nd : Node) (al : List (Option Nat)) (sc : Nat) (mm : Vec Nat) (hsc : Int) :
    Prop where
  pass : GuardsPass I nd
  run : H2.run (nodeInp I nd) = some (mm, hsc)
  score : sc = hsc.toNat + bonusOf I nd
  perfect : Perfect (probOf (nodeInp I nd)) mm.get
  gate : G.gateOk I (ctxOf I nd mm.get) = true
  list : al = (List.range I.P).map (assign I nd mm.get)
  hard : G.HardOK I (assign I nd mm.get)

/-- what a feasible verdict is worth before the score is looked at (`InstOK` suffices) -/
theorem node_feasible_hard {I : Inst} {R : RoomFns} {nd : Node} (hI : InstOK I) (hn : NodeOK I nd)
    {al : List (Option Nat)} {sc : Nat} (h : runNodeS I R nd = .ok (.feasible al sc)) :
    ∃ mm hsc, FeasibleBy I nd al sc mm hsc := by
  obtain ⟨mm, hsc, hg, hrun, -, ⟨b, c, hf⟩, rfl, rfl⟩ := runNodeS_feasible h
  obtain ⟨hperf, -, -⟩ := node_matching hg hrun
  have hgate := checkFeas_gate I nd mm.get _ _ (skipx_get I nd) (fun p hp => asgOf_eq I nd mm hp) b c hf
  exact ⟨mm, hsc, hg, hrun, rfl, hperf, hgate,
    List.map_congr_left fun p hp => asgOf_eq I nd mm (List.mem_range.1 hp),
    assign_eq I nd mm.get ▸ G.gate_sound I _ (ctxOK I nd hI hn mm hperf) hgate⟩

theorem C01_node (I : Inst) (R : RoomFns) (nd : Node) (hI : InstOK I) (hn : NodeOK I nd)
    (al : List (Option Nat)) (sc : Nat) (h : runNodeS I R nd = .ok (.feasible al sc)) :
    ∃ mm : Vec Nat, al = (List.range I.P).map (assign I nd mm.get) ∧ G.HardOK I (assign I nd mm.get) :=
  let ⟨mm, _, hf⟩ := node_feasible_hard hI hn h
  ⟨mm, hf.list, hf.hard⟩

#print axioms C01_node

section
open Finset
theorem foldl_cond_eq_sum (n : Nat) (cond : Nat → Bool) (f : Nat → Nat) :
    (List.range n).foldl (fun acc c => if cond c then acc else acc + f c) 0
      = ∑ c ∈ range n, (if cond c then 0 else f c) := by
  rw [← foldl_add_eq_sum]
  congr 1
  funext acc c
  split <;> rfl

/-- the attendee-instructors of course `c` -/
def instrSet (I : Inst) (c : Nat) : Finset Nat :=
  (range I.P).filter (fun p => I.instructs p c = true ∧ I.hasChoices p = true)

theorem cnt_eq_card (I : Inst) (hI : InstOK I) (c : Nat) (hc : c < I.C) (hnd : (I.course c).instructors.Nodup) :
    (I.course c).instructors.countP (fun i => !I.instructorOnly i) = #(instrSet I c) := by
  rw [List.countP_eq_length_filter, ← List.toFinset_card_of_nodup (hnd.filter _)]
  refine congrArg card (Finset.ext fun p => ?_)
  rw [List.mem_toFinset, List.mem_filter, instrSet, mem_filter, mem_range]
  -- `instructs p c` is `instructors.contains p`, and `hasChoices p` is `!instructorOnly p`
  exact ⟨fun ⟨h1, h2⟩ => ⟨instructor_lt hI.pre (course_mem I hc) h1, List.contains_iff_mem.2 h1, h2⟩,
    fun ⟨_, h1, h2⟩ => ⟨List.contains_iff_mem.1 h1, h2⟩⟩

theorem bonus_eq (I : Inst) (nd : Node) (mm : Nat → Nat) (hI : InstOK I)
    (hnd : ∀ c, c < I.C → (I.course c).instructors.Nodup) :
    bonusOf I nd = ∑ p ∈ (range I.P).filter
      (fun p => (G.instrOf I (ctxOf I nd mm) p).isSome = true ∧ I.hasChoices p = true), G.W := by
  classical
  unfold bonusOf
  rw [foldl_cond_eq_sum]
  set live := (range I.C).filter (fun c => nd.cancelled.contains c = false) with hlive
  have h1 : ∑ c ∈ range I.C, (if nd.cancelled.contains c = true then 0
        else WEIGHT * (I.course c).instructors.countP (fun i => !I.instructorOnly i))
      = ∑ c ∈ live, ∑ _p ∈ instrSet I c, G.W := by
    rw [hlive, sum_filter]
    refine sum_congr rfl fun c hc => ?_
    cases nd.cancelled.contains c
    · rw [if_neg Bool.false_ne_true, if_pos rfl, cnt_eq_card I hI c (mem_range.1 hc) (hnd c (mem_range.1 hc)),
        sum_const_nat (m := G.W) (fun _ _ => rfl), Nat.mul_comm]
      rfl
    · rw [if_pos rfl, if_neg (Bool.noConfusion : ¬ true = false)]
  have hdisj : (live : Set Nat).PairwiseDisjoint (instrSet I) := by
    intro c hc c' hc' hne
    rw [Function.onFun, disjoint_left]
    intro p hp hp'
    simp only [instrSet, mem_filter] at hp hp'
    exact hne (hI.oneCourse p c c' (instructs_lt I hp.2.1) (instructs_lt I hp'.2.1) hp.2.1 hp'.2.1)
  rw [h1, ← sum_biUnion hdisj]
  apply sum_congr _ (fun _ _ => rfl)
  ext p
  simp only [mem_biUnion, instrSet, mem_filter, mem_range, hlive]
  constructor
  · rintro ⟨c, ⟨hc, hcl⟩, hp, hin, hch⟩
    exact ⟨hp, G.instrOf_isSome hc (by simpa [ctxOf, List.contains_iff_mem] using hcl) hin, hch⟩
  · rintro ⟨hp, hsome, hch⟩
    obtain ⟨c, hc⟩ := Option.isSome_iff_exists.1 hsome
    obtain ⟨h1, h2, h3⟩ := G.instrOf_some hc
    exact ⟨c, ⟨h1, by simpa [ctxOf, List.contains_iff_mem] using h2⟩, hp, h3, hch⟩

#print axioms bonus_eq

/-- validity beyond `InstOK` that the score needs -/
structure InstOK2 (I : Inst) : Prop extends InstOK I where
  nodup : ∀ c, c < I.C → (I.course c).instructors.Nodup
  pen : ∀ p ch, ch ∈ (I.part p).choices → ch.penalty ≤ WEIGHT

def wN (I : Inst) (x cp : Nat) : Nat := (I.weight x cp).toNat

theorem weight_nonneg (I : Inst) (hpen : ∀ p ch, ch ∈ (I.part p).choices → ch.penalty ≤ WEIGHT) (x cp : Nat) :
    0 ≤ I.weight x cp := by
  unfold Inst.weight
  split
  · split
    · rename_i ch hf
      have hm := List.mem_of_find?_eq_some hf
      have := hpen x ch (by simpa using hm)
      simp only [Int.ofNat_eq_natCast]; omega
    · exact Int.le_refl _
  · exact Int.le_refl _

theorem wN_real (I : Inst) (p cp : Nat) (hp : p < I.P) : wN I p cp = G.weightOf I p (I.colCourse cp) := by
  unfold wN Inst.weight G.weightOf
  rw [if_pos hp]
  split <;> rename_i h <;> simp only [h]
  · simp only [Int.ofNat_eq_natCast]
    exact Int.toNat_sub _ _
  · rfl

theorem wN_dummy (I : Inst) (x cp : Nat) (hx : I.P ≤ x) : wN I x cp = 0 := by
  unfold wN Inst.weight
  rw [if_neg (by omega)]; rfl

theorem sum_cast (s : Finset Nat) (f : Nat → Nat) : ∑ y ∈ s, (f y : Int) = ((∑ y ∈ s, f y : Nat) : Int) := by
  induction s using Finset.induction_on with
  | empty => simp
  | insert a s ha ih => rw [sum_insert ha, sum_insert ha, ih, Int.natCast_add]

theorem hsc_eq (I : Inst) (nd : Node) (hpen : ∀ p ch, ch ∈ (I.part p).choices → ch.penalty ≤ WEIGHT)
    (mm : Vec Nat) (hperf : Perfect (probOf (nodeInp I nd)) mm.get) :
    (weight (probOf (nodeInp I nd)) mm.get).toNat
      = ∑ cp ∈ (range I.m).filter (fun cp => skipY I nd cp = false), wN I (mm.get cp) cp := by
  have : weight (probOf (nodeInp I nd)) mm.get
      = ((∑ cp ∈ (range I.m).filter (fun cp => skipY I nd cp = false), wN I (mm.get cp) cp : Nat) : Int) := by
    rw [← sum_cast, weight, liveCols_eq]
    refine sum_congr rfl fun cp hcp => ?_
    have hcpm := mem_range.1 (mem_filter.1 hcp).1
    rw [probOf_w, wt_eq I nd _ _ (perfect_row hperf hcpm (mem_filter.1 hcp).2).1 hcpm, wN,
      Int.toNat_of_nonneg (weight_nonneg I hpen _ _)]
  rw [this, Int.toNat_natCast]

theorem scoreCtx (I : Inst) (nd : Node) (hI : InstOK I) (hpre : I.precomputeOk = true)
    (hu : I.m + numSkipX I nd ≤ I.n + numSkipY I nd)
    (hfit : I.P + (I.n - I.m + numSkipY I nd - numSkipX I nd) ≤ I.n)
    (mm : Vec Nat) (hperf : Perfect (probOf (nodeInp I nd)) mm.get) :
    G.ScoreCtx I (ctxOf I nd mm.get) (wN I) := by
  refine ⟨?_, ?_, ?_, ?_⟩
  · intro p cp hp _; exact wN_real I p cp hp
  · intro x cp hx; exact wN_dummy I x cp hx
  · -- an injective map between finite sets of equal size is onto
    intro p hp hact
    rw [isInstr_eq I nd mm.get p hp] at hact
    obtain ⟨cp, hcp, hcpp⟩ := hperf.surjOn (node_square I nd hpre hu hfit) ((mem_X_real I nd hp).2 hact)
    obtain ⟨h1, h2⟩ := (mem_Y_iff I nd cp).1 hcp
    exact ⟨cp, h1, h2, hcpp⟩
  · intro p c hc hl hin
    exact G.isInstr_true_of hc hl hin

theorem node_score_eq {I : Inst} {nd : Node} (hI : InstOK2 I) (hn : NodeOK I nd) (hg : GuardsPass I nd)
    {mm : Vec Nat} {hsc : Int} (hrun : H2.run (nodeInp I nd) = some (mm, hsc)) :
    hsc.toNat + bonusOf I nd = G.scoreOf I (assign I nd mm.get) := by
  obtain ⟨hperf, hw, -⟩ := node_matching hg hrun
  have := G.score_truthful I _ (wN I) (ctxOK I nd hI.toInstOK hn mm hperf)
    (scoreCtx I nd hI.toInstOK hg.pre hg.under hg.fit mm hperf)
  rw [assign_eq, ← this, G.nodeScore, hw, hsc_eq I nd hI.pen mm hperf, bonus_eq I nd mm.get hI.toInstOK hI.nodup]
  rfl

/-- for an instance valid for the score as well, the reported score is the documented score of the reported list -/
theorem node_feasible_mm {I : Inst} {R : RoomFns} {nd : Node} (hI : InstOK2 I) (hn : NodeOK I nd)
    {al : List (Option Nat)} {sc : Nat} (h : runNodeS I R nd = .ok (.feasible al sc)) :
    ∃ mm hsc, FeasibleBy I nd al sc mm hsc ∧ sc = G.scoreOf I (assign I nd mm.get) :=
  let ⟨mm, hsc, hf⟩ := node_feasible_hard hI.toInstOK hn h
  ⟨mm, hsc, hf, hf.score.trans (node_score_eq hI hn hf.pass hf.run)⟩

/-- C08, node level -/
theorem C08_node (I : Inst) (R : RoomFns) (nd : Node) (hI : InstOK2 I) (hn : NodeOK I nd)
    (al : List (Option Nat)) (sc : Nat) (h : runNodeS I R nd = .ok (.feasible al sc)) :
    ∃ mm : Vec Nat, al = (List.range I.P).map (assign I nd mm.get) ∧
      sc = G.scoreOf I (assign I nd mm.get) :=
  let ⟨mm, _, hf, hs⟩ := node_feasible_mm hI hn h
  ⟨mm, hf.list, hs⟩

#print axioms C08_node

/-- C01 + C08 at node level with one witness -/
theorem node_feasible_spec (I : Inst) (R : RoomFns) (nd : Node) (hI : InstOK2 I) (hn : NodeOK I nd)
    (al : List (Option Nat)) (sc : Nat) (h : runNodeS I R nd = .ok (.feasible al sc)) :
    ∃ a : Nat → Option Nat, al = (List.range I.P).map a ∧ G.HardOK I a ∧ sc = G.scoreOf I a :=
  let ⟨_, _, hf, hs⟩ := node_feasible_mm hI hn h
  ⟨_, hf.list, hf.hard, hs⟩

#print axioms node_feasible_spec
end
end N2
