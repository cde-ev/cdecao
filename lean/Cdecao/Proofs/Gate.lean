import Mathlib.Data.Finset.Card
import Cdecao.Model.Node
import Cdecao.Spec.Hard
import Cdecao.Proofs.Cols
/-! The C01 gate theorem in abstract form. `Ctx` is what `run_bab_node` hands to its assignment loops (columns,
    skip mask, course of a column, matching); `assign` is the assignment they build in closed form; `gateOk` is
    the "feasible" answer of `check_feasibility`. `gate_sound`: under the context facts `CtxOK`, an assignment
    that passes the gate satisfies the hard constraints. NodeFeasible instantiates `Ctx` for the node model. -/
namespace N2.G
open H2

structure Ctx where
  m : Nat                      -- number of columns
  cancelled : List Nat
  skipY : Nat → Bool
  courseMap : Nat → Nat
  mm : Nat → Nat               -- matching: column ↦ row

/-- the course a participant ends up in after the matching loop: last write wins -/
def matched (X : Ctx) (p : Nat) : Option Nat :=
  ((List.range X.m).reverse.find? (fun cp => !X.skipY cp && X.mm cp == p)).map X.courseMap

/-- the course a participant is written into by the instructor loop: last write wins -/
def instrOf (I : Inst) (X : Ctx) (p : Nat) : Option Nat :=
  (List.range I.C).reverse.find? (fun c => !X.cancelled.contains c && I.instructs p c)

/-- the assignment of `run_bab_node` in closed form -/
def assign (I : Inst) (X : Ctx) (p : Nat) : Option Nat :=
  match instrOf I X p with
  | some c => some c
  | none => matched X p

/-- `is_instructor` as used by check_feasibility, restricted to real participants -/
def isInstr (I : Inst) (X : Ctx) (p : Nat) : Bool :=
  !I.hasChoices p || (List.range I.C).any (fun c => !X.cancelled.contains c && I.instructs p c)

def size (I : Inst) (X : Ctx) (c : Nat) : Nat :=
  (List.range I.P).countP (fun p => !isInstr I X p && assign I X p == some c)

/-- check_feasibility says "feasible" -/
def gateOk (I : Inst) (X : Ctx) : Bool :=
  (List.range I.P).all (fun p => isInstr I X p || I.choseOpt p (assign I X p)) &&
  (List.range I.C).all (fun c => X.cancelled.contains c || decide ((I.course c).numMin ≤ size I X c))

/-- what the rest of the node guarantees: the instance is well-formed, fixed courses are not cancelled (`NodeOK`),
    the masks are built as in `run_bab_node`, and the matching is perfect (`hung_partial`) -/
structure CtxOK (I : Inst) (X : Ctx) : Prop where
  oneCourse : ∀ p c c', I.instructs p c = true → I.instructs p c' = true → c = c'
  instrRange : ∀ p c, c < I.C → I.instructs p c = true → p < I.P
  fixedLive : ∀ c, c ∈ X.cancelled → (I.course c).fixed = false
  live : ∀ cp, cp < X.m → X.skipY cp = false → X.courseMap cp < I.C ∧ X.courseMap cp ∉ X.cancelled
  cap : ∀ c, c < I.C → ((Finset.range X.m).filter (fun cp => X.skipY cp = false ∧ X.courseMap cp = c)).card ≤ (I.course c).numMax
  inj : ∀ cp1 cp2, cp1 < X.m → cp2 < X.m → X.skipY cp1 = false → X.skipY cp2 = false → X.mm cp1 = X.mm cp2 → cp1 = cp2
  rows : ∀ cp, cp < X.m → X.skipY cp = false → X.mm cp < I.P → isInstr I X (X.mm cp) = false

theorem find_rev_range_some {n : Nat} {q : Nat → Bool} {x : Nat}
    (h : (List.range n).reverse.find? q = some x) : x < n ∧ q x = true := by
  have h1 := List.find?_some h
  have h2 := List.mem_of_find?_eq_some h
  simp at h2
  exact ⟨h2, h1⟩

theorem find_rev_range_none {n : Nat} {q : Nat → Bool}
    (h : (List.range n).reverse.find? q = none) (x : Nat) (hx : x < n) : q x = false := by
  rw [List.find?_eq_none] at h
  have := h x (by simp [hx])
  simpa using this

theorem instrOf_some {I : Inst} {X : Ctx} {p c : Nat} (h : instrOf I X p = some c) :
    c < I.C ∧ c ∉ X.cancelled ∧ I.instructs p c = true := by
  obtain ⟨h1, h2⟩ := find_rev_range_some h
  simp only [Bool.and_eq_true, Bool.not_eq_true', List.contains_eq_mem, decide_eq_false_iff_not] at h2
  exact ⟨h1, h2.1, h2.2⟩

theorem instrOf_none {I : Inst} {X : Ctx} {p : Nat} (h : instrOf I X p = none) (c : Nat) (hc : c < I.C)
    (hl : c ∉ X.cancelled) : I.instructs p c = false := by
  have := find_rev_range_none h c hc
  simp only [Bool.and_eq_false_iff, Bool.not_eq_false', List.contains_eq_mem, decide_eq_true_eq] at this
  rcases this with h | h
  · exact absurd h hl
  · exact h

theorem instrOf_isSome {I : Inst} {X : Ctx} {p c : Nat} (hc : c < I.C) (hl : c ∉ X.cancelled)
    (hi : I.instructs p c = true) : (instrOf I X p).isSome = true := by
  cases hio : instrOf I X p with
  | some _ => rfl
  | none => rw [instrOf_none hio c hc hl] at hi; cases hi

/-- the column in which a participant was matched (last write wins) -/
def colOf (X : Ctx) (p : Nat) : Nat :=
  ((List.range X.m).reverse.find? (fun cp => !X.skipY cp && X.mm cp == p)).getD 0

theorem colOf_spec {X : Ctx} {p c : Nat} (h : matched X p = some c) :
    colOf X p < X.m ∧ X.skipY (colOf X p) = false ∧ X.mm (colOf X p) = p ∧ X.courseMap (colOf X p) = c := by
  simp only [matched, Option.map_eq_some_iff] at h
  obtain ⟨cp, hf, hc⟩ := h
  have : colOf X p = cp := by simp [colOf, hf]
  obtain ⟨h1, h2⟩ := find_rev_range_some hf
  simp only [Bool.and_eq_true, Bool.not_eq_true', beq_iff_eq] at h2
  rw [this]; exact ⟨h1, h2.1, h2.2, hc⟩

theorem matched_some {X : Ctx} {p c : Nat} (h : matched X p = some c) :
    ∃ cp, cp < X.m ∧ X.skipY cp = false ∧ X.mm cp = p ∧ X.courseMap cp = c :=
  ⟨colOf X p, colOf_spec h⟩

theorem isInstr_false_iff {I : Inst} {X : Ctx} {p : Nat} :
    isInstr I X p = false ↔
      I.hasChoices p = true ∧ ∀ c, c < I.C → c ∉ X.cancelled → I.instructs p c = false := by
  simp [isInstr]

theorem isInstr_true_of {I : Inst} {X : Ctx} {p c : Nat} (hc : c < I.C) (hl : c ∉ X.cancelled)
    (hi : I.instructs p c = true) : isInstr I X p = true := by
  by_contra h
  rw [(isInstr_false_iff.1 (by simpa using h)).2 c hc hl] at hi
  cases hi

theorem assign_cases {I : Inst} {X : Ctx} {p c : Nat} (h : assign I X p = some c) :
    (instrOf I X p = some c) ∨ (instrOf I X p = none ∧ matched X p = some c) := by
  unfold assign at h
  cases hi : instrOf I X p with
  | some c' => simp [hi] at h; left; rw [h]
  | none => simp [hi] at h; right; exact ⟨rfl, h⟩

theorem assign_live {I : Inst} {X : Ctx} (ok : CtxOK I X) {p c : Nat} (h : assign I X p = some c) :
    c < I.C ∧ c ∉ X.cancelled := by
  rcases assign_cases h with h | ⟨_, h⟩
  · obtain ⟨a, b, _⟩ := instrOf_some h; exact ⟨a, b⟩
  · obtain ⟨cp, h1, h2, _, h4⟩ := matched_some h
    have := ok.live cp h1 h2
    rw [h4] at this; exact this

theorem assign_of_instructs {I : Inst} {X : Ctx} (ok : CtxOK I X) {p c : Nat} (hc : c < I.C)
    (hl : c ∉ X.cancelled) (hi : I.instructs p c = true) : assign I X p = some c := by
  unfold assign
  cases h : instrOf I X p with
  | none => have := instrOf_none h c hc hl; simp [hi] at this
  | some c' =>
    obtain ⟨_, _, h3⟩ := instrOf_some h
    simp [ok.oneCourse p c' c h3 hi]

theorem takesPlace_live {I : Inst} {X : Ctx} (ok : CtxOK I X) {c : Nat} (h : takesPlace I (assign I X) c) :
    c ∉ X.cancelled := by
  rcases h with h | ⟨p, _, h⟩
  · intro hm; have := ok.fixedLive c hm; simp [h] at this
  · exact (assign_live ok h).2

theorem attendees_eq_zero {I : Inst} {a : Nat → Option Nat} {c : Nat} (h : ∀ p, p < I.P → a p ≠ some c) :
    attendees I a c = 0 := by
  rw [attendees, List.countP_eq_zero]
  intro p hp
  simp only [Bool.and_eq_true, beq_iff_eq, not_and]
  exact fun hap => absurd hap (h p (List.mem_range.1 hp))

/-- under the hard constraints no course is over-full: it is empty or takes place -/
theorem hard_attendees_le {I : Inst} {a : Nat → Option Nat} (h : HardOK I a) {c : Nat} (hc : c < I.C) :
    attendees I a c ≤ (I.course c).numMax := by
  by_cases hz : attendees I a c = 0
  · omega
  · have hpos := Nat.pos_of_ne_zero hz
    rw [attendees, List.countP_pos_iff] at hpos
    obtain ⟨p, hp, hpp⟩ := hpos
    simp only [Bool.and_eq_true, beq_iff_eq] at hpp
    exact h.max c hc (.inr ⟨p, List.mem_range.1 hp, hpp.1⟩)

/-- the hypothesis is `CtxOK.inj`, spelled out for use without a `CtxOK` -/
theorem matched_of_col {X : Ctx}
    (inj : ∀ cp1 cp2, cp1 < X.m → cp2 < X.m → X.skipY cp1 = false → X.skipY cp2 = false →
      X.mm cp1 = X.mm cp2 → cp1 = cp2)
    {cp : Nat} (h1 : cp < X.m) (h2 : X.skipY cp = false) : matched X (X.mm cp) = some (X.courseMap cp) := by
  cases hm : matched X (X.mm cp) with
  | none =>
    simp only [matched, Option.map_eq_none_iff] at hm
    have := find_rev_range_none hm cp h1
    simp [h2] at this
  | some c =>
    obtain ⟨cp', g1, g2, g3, g4⟩ := matched_some hm
    rw [← g4, inj cp' cp g1 h1 g2 h2 g3]

theorem att_matched {I : Inst} {X : Ctx} {p c : Nat} (ha : assign I X p = some c)
    (hni : I.instructs p c = false) : matched X p = some c := by
  rcases assign_cases ha with h | ⟨_, h⟩
  · obtain ⟨_, _, h3⟩ := instrOf_some h; simp [hni] at h3
  · exact h

/-- the attendees of a course inject into its live columns -/
theorem attendees_le_cols (I : Inst) (X : Ctx) (c : Nat) :
    attendees I (assign I X) c
      ≤ ((Finset.range X.m).filter (fun cp => X.skipY cp = false ∧ X.courseMap cp = c)).card := by
  unfold attendees
  rw [countP_range_eq_card]
  -- an attendee was placed by the matching, in a live column of the course; distinct attendees in distinct columns
  have hm : ∀ p ∈ ((Finset.range I.P).filter fun p => (assign I X p == some c && !I.instructs p c) = true),
      matched X p = some c := fun p hp => by
    have := (Finset.mem_filter.1 hp).2
    simp only [Bool.and_eq_true, beq_iff_eq, Bool.not_eq_true'] at this
    exact att_matched this.1 this.2
  refine Finset.card_le_card_of_injOn (colOf X) (fun p hp => ?_) fun p1 hp1 p2 hp2 heq => ?_
  · obtain ⟨h1, h2, _, h4⟩ := colOf_spec (hm p hp)
    exact Finset.mem_coe.2 (Finset.mem_filter.2 ⟨Finset.mem_range.2 h1, h2, h4⟩)
  · rw [← (colOf_spec (hm p1 hp1)).2.2.1, ← (colOf_spec (hm p2 hp2)).2.2.1, heq]

theorem gateOk_iff {I : Inst} {X : Ctx} : gateOk I X = true ↔
    (∀ p, p < I.P → isInstr I X p = true ∨ I.choseOpt p (assign I X p) = true) ∧
    (∀ c, c < I.C → c ∈ X.cancelled ∨ (I.course c).numMin ≤ size I X c) := by
  simp only [gateOk, Bool.and_eq_true, List.all_eq_true, List.mem_range, Bool.or_eq_true,
    List.contains_eq_mem, decide_eq_true_eq]

theorem gate_min {I : Inst} {X : Ctx} (hg : gateOk I X = true) {c : Nat} (hc : c < I.C)
    (hl : c ∉ X.cancelled) : (I.course c).numMin ≤ attendees I (assign I X) c := by
  refine le_trans (((gateOk_iff.1 hg).2 c hc).resolve_left hl) ?_
  unfold size attendees
  apply List.countP_mono_left
  intro p _ hp
  simp only [Bool.and_eq_true, Bool.not_eq_true', beq_iff_eq] at hp ⊢
  exact ⟨hp.2, (isInstr_false_iff.1 hp.1).2 c hc hl⟩

/-- C01, node level: if the feasibility gate passes, the assignment satisfies all hard constraints -/
theorem gate_sound (I : Inst) (X : Ctx) (ok : CtxOK I X) (hg : gateOk I X = true) :
    HardOK I (assign I X) := by
  have g1 := (gateOk_iff.1 hg).1
  refine ⟨?_, ?_, ?_, ?_, ?_, ?_⟩
  · intro p _ c h; exact (assign_live ok h).1
  · intro c hc htp i _ hi
    exact assign_of_instructs ok hc (takesPlace_live ok htp) hi
  · intro c hc htp
    exact gate_min hg hc (takesPlace_live ok htp)
  · intro c hc _
    exact le_trans (attendees_le_cols I X c) (ok.cap c hc)
  · -- everybody with choices who is not instructing a course that takes place got a choice
    intro p hp hch hno
    rcases g1 p hp with h | h
    · -- else they would instruct a live course, and be assigned to it
      by_contra
      have hact : isInstr I X p = false := isInstr_false_iff.2 ⟨hch, fun c hc hl => Bool.eq_false_iff.2 fun hin =>
        hno ⟨c, hc, hin, .inr ⟨p, hp, assign_of_instructs ok hc hl hin⟩⟩⟩
      rw [hact] at h; cases h
    · simp only [Inst.choseOpt, List.any_eq_true, beq_iff_eq] at h
      obtain ⟨ch, hm, he⟩ := h
      exact ⟨ch, hm, he.symm⟩
  · -- participants without choices are assigned only as instructors
    intro p hp hnc c ha
    rcases assign_cases ha with h | ⟨_, h⟩
    · exact (instrOf_some h).2.2
    · exfalso
      obtain ⟨cp, h1, h2, h3, _⟩ := matched_some h
      have := ok.rows cp h1 h2 (by rw [h3]; exact hp)
      rw [h3] at this
      have := (isInstr_false_iff.1 this).1
      simp [hnc] at this

#print axioms gate_sound
end N2.G
