import Cdecao.Proofs.ReaderResult
import Cdecao.Proofs.SpecExec
/-! `CD.read` (model of io::cdedb::read) either fails or returns participants and courses whose
conversion `CD.toInstR` to the node model's instance satisfies the validity hypotheses under which the
node-level theorems are stated (`ReadWF`). The instructor lists are duplicate-free because the typed
loop pushes strictly increasing participant indices. -/
namespace CD
open JS

/-- the conversion of the reader's result to the node model's instance (the same as the `I` of
    `CDD.instOf` in Driver.lean) -/
def toInstR (parts : List Part) (courses : List Course) (rooms : Option (List Nat)) : N2.Inst :=
  { cs := courses.map (fun c => ⟨c.numMin, c.numMax, c.fixed, c.instructors⟩)
    ps := parts.map (fun p => ⟨p.choices.map (fun (c, pen) => ⟨c, pen⟩)⟩)
    rooms := rooms }

def allInstr (cs : List Course) : List Nat := cs.flatMap (fun c => c.instructors)

def regChoices (reg : J) (trackId : Nat) : Option (List J) :=
  (((reg.get "tracks").bind J.asObject).bind
    (fun tracks => (J.lookup (toString trackId) tracks).bind J.asObject)).bind
    (fun rt => (J.lookup "choices" rt).bind J.asArray)

/-- a stored choice `(c, pen)`: entry number `pen` of the registration's array is the id of the
    kept course with index `c` -/
def ChoiceOK (co : CoursesOut) (chs : List J) (ch : Nat × Nat) : Prop :=
  ∃ id, chs[ch.2]?.bind J.asU64 = some id ∧ courseIndex co id = some (some ch.1)

theorem ChoiceOK.pen_lt {co : CoursesOut} {chs : List J} {ch : Nat × Nat} (h : ChoiceOK co chs ch) :
    ch.2 < chs.length := by
  obtain ⟨id, h1, -⟩ := h
  by_contra hc
  rw [List.getElem?_eq_none (Nat.le_of_not_lt hc)] at h1
  cases h1

theorem ChoiceOK.course_lt {co : CoursesOut} {chs : List J} {ch : Nat × Nat} (h : ChoiceOK co chs ch) :
    ch.1 < co.courses.length := by
  obtain ⟨id, -, h2⟩ := h
  exact ((courseIndex_eq_some_some_iff co id _).1 h2).2.1

theorem regChoices_eq (reg : J) (t : Nat) : regChoices reg t = choicesArr reg t := by
  unfold regChoices choicesArr
  rw [Option.bind_assoc]

theorem participantCourseData_choices {reg : J} {t : Nat} {co : CoursesOut} {pc : PCData}
    (h : participantCourseData reg t co = .ok pc) :
    ∃ chs, regChoices reg t = some chs ∧ ∀ ch ∈ pc.choices, ChoiceOK co chs ch := by
  obtain ⟨ids, h1, h2, h3⟩ := pcd_choices h
  refine ⟨_, (regChoices_eq reg t).trans h1, ?_⟩
  rintro ⟨c, i⟩ hch
  rw [h3] at hch
  obtain ⟨id, hid, hc⟩ := mem_choiceEntries.1 hch
  refine ⟨id, ?_, hc⟩
  show ((ids.map _)[i]?).bind J.asU64 = some id
  rw [List.getElem?_map, hid]
  exact asU64_pos (h2 id (List.mem_of_getElem? hid)).1

/-- provenance of a participant: it stems from a registration of the export, and each of its
    choices `(c, pen)` is entry number `pen` of that registration's `choices` array -/
def PartOK (rdata : List (String × J)) (t : Nat) (co : CoursesOut) (p : Part) : Prop :=
  ∃ k v, (k, v) ∈ rdata ∧ parseNat k = some p.dbid ∧
    ∃ chs, regChoices v t = some chs ∧ ∀ ch ∈ p.choices, ChoiceOK co chs ch

structure ReadWF (rdata : List (String × J)) (t : Nat) (parts : List Part) (courses : List Course) :
    Prop where
  /-- (i) every choice names a course of the problem -/
  choice_lt : ∀ p ∈ parts, ∀ ch ∈ p.choices, ch.1 < courses.length
  /-- (i) every instructor entry names a participant of the problem -/
  instr_lt : ∀ c ∈ courses, ∀ i ∈ c.instructors, i < parts.length
  /-- (ii) consistent size limits -/
  min_le_max : ∀ c ∈ courses, c.numMin ≤ c.numMax
  /-- (iii) over all courses together no participant index occurs twice in the instructor lists -/
  nodup : (allInstr courses).Nodup
  /-- (iv) every participant stems from a registration of the export (key = its `dbid`), and the
      penalty of each of its choices is a position in that registration's `choices` array -/
  pen : ∀ p ∈ parts, ∃ k v, (k, v) ∈ rdata ∧ parseNat k = some p.dbid ∧
    ∃ chs, regChoices v t = some chs ∧ ∀ ch ∈ p.choices, ch.2 < chs.length

theorem adapt_instructors (c : Course) : (adapt c).instructors = c.instructors := rfl

theorem allInstr_map_adapt (cs : List Course) : allInstr (cs.map adapt) = allInstr cs := by
  unfold allInstr
  rw [List.flatMap_map]
  rfl

theorem readRegs_wf {cdata rdata : List (String × J)} {pid t : Nat} {td : List (String × J)}
    {co : CoursesOut} {o : Opts} {s : RState} (hco : readCourses cdata t o = .ok co)
    (h : readRegs rdata pid t td co o = .ok s) :
    (∀ p ∈ s.parts, PartOK rdata t co p) ∧ ReadWF rdata t s.parts s.courses := by
  have hfresh := readCourses_fresh hco
  obtain ⟨hi, hparts, hframe, -⟩ := readRegs_spec h
  have hidx : s.i = s.parts.length := by
    rw [hi]
    simpa using (congrArg List.length hparts).symm
  have hlen : s.courses.length = co.courses.length := by simpa using congrArg List.length hframe
  have hP : ∀ p ∈ s.parts, PartOK rdata t co p := by
    intro p hp
    rw [readRegs_parts h] at hp
    obtain ⟨kv, hkv, rfl⟩ := List.mem_map.1 hp
    obtain ⟨hin, hkeep⟩ := List.mem_filter.1 hkv
    obtain ⟨rid, name, pc, hrid, -, hpc, -, -, hpo⟩ := kept_entry h hin hkeep
    obtain ⟨chs, h1, h2⟩ := participantCourseData_choices hpc
    rw [hpo]
    exact ⟨kv.1, kv.2, hin, hrid, chs, h1, h2⟩
  refine ⟨hP, ?_, ?_, ?_, ?_, ?_⟩
  · intro p hp ch hch
    obtain ⟨k, v, -, -, chs, -, hc⟩ := hP p hp
    rw [hlen]
    exact (hc ch hch).course_lt
  · intro c hc k hkc
    obtain ⟨ci, hci⟩ := List.getElem?_of_mem hc
    obtain ⟨r, hr, -⟩ := (readRegs_mem_instructors hco h hci k).1 hkc
    rw [← hidx, hi]
    exact (List.getElem?_eq_some_iff.1 hr).1
  · intro c hc
    have : courseCore c ∈ co.courses.map courseCore := hframe ▸ List.mem_map_of_mem hc
    obtain ⟨c0, hc0, he⟩ := List.mem_map.1 this
    have h1 : c0.numMin = c.numMin := congrArg (·.2.2.1) he
    have h2 : c0.numMax = c.numMax := congrArg (·.2.2.2.1) he
    have := (hfresh c0 hc0).2.2.2.2.2
    omega
  · unfold allInstr
    rw [List.nodup_flatMap]
    constructor
    · intro c hc
      obtain ⟨ci, hci⟩ := List.getElem?_of_mem hc
      rw [readRegs_instructors hco h hci]
      refine ((RD.read_instr_sorted _ _).filterMap _ ?_).imp (fun h => Nat.ne_of_lt h)
      have e : ∀ {p : Nat × Nat} {x : Nat}, (if p.1 = ci then some p.2 else none) = some x → x = p.2 := by
        intro p x h
        split at h <;> cases h
        rfl
      intro a a' haa b hb b' hb'
      rw [e hb, e hb']
      exact haa
    · rw [List.pairwise_iff_getElem]
      intro i j hi hj hij k hki hkj
      obtain ⟨r, hr, h1⟩ := (readRegs_mem_instructors hco h (List.getElem?_eq_getElem hi) k).1 hki
      obtain ⟨r', hr', h2⟩ := (readRegs_mem_instructors hco h (List.getElem?_eq_getElem hj) k).1 hkj
      rw [hr] at hr'
      cases hr'
      rw [h1] at h2
      cases h2
      exact Nat.lt_irrefl _ hij
  · intro p hp
    obtain ⟨k, v, h1, h2, chs, h3, hc⟩ := hP p hp
    exact ⟨k, v, h1, h2, chs, h3, fun ch hch => (hc ch hch).pen_lt⟩

theorem ReadWF.map_adapt {rdata : List (String × J)} {t : Nat} {parts : List Part} {courses : List Course}
    (h : ReadWF rdata t parts courses) : ReadWF rdata t parts (courses.map adapt) := by
  refine ⟨fun p hp ch hch => ?_, fun c hc => ?_, fun c hc => ?_, ?_, h.pen⟩
  · rw [List.length_map]; exact h.choice_lt p hp ch hch
  · obtain ⟨c0, hc0, rfl⟩ := List.mem_map.1 hc
    exact h.instr_lt c0 hc0
  · obtain ⟨c0, hc0, rfl⟩ := List.mem_map.1 hc
    exact Nat.sub_le_sub_right (h.min_le_max c0 hc0) _
  · rw [allInstr_map_adapt]; exact h.nodup

theorem read_wellformed {data : J} {o : Opts} {parts : List Part} {courses : List Course}
    {amb : Ambience} (h : read data o = .ok (parts, courses, amb)) :
    ∃ rdata, (data.get "registrations").bind J.asObject = some rdata ∧
      ReadWF rdata amb.trackId parts courses := by
  obtain ⟨_, pid, _, td, cdata, rdata, co, s, -, -, -, hco, hrd, hs, rfl, rfl, rfl⟩ :=
    read_inv h
  exact ⟨rdata, hrd, (readRegs_wf hco hs).2.map_adapt⟩

/-- (iv) at full strength: the penalty of a stored choice `(c, pen)` is the position of that choice in
    the registration's original `choices` array — entry number `pen` of the array is the id of the
    kept course with index `c` (`ChoiceOK`), for the course table `co` that `readCourses` built -/
theorem read_choice_position {data : J} {o : Opts} {parts : List Part} {courses : List Course}
    {amb : Ambience} (h : read data o = .ok (parts, courses, amb)) :
    ∃ cdata co rdata, (data.get "courses").bind J.asObject = some cdata ∧
      readCourses cdata amb.trackId o = .ok co ∧
      (data.get "registrations").bind J.asObject = some rdata ∧
      ∀ p ∈ parts, PartOK rdata amb.trackId co p := by
  obtain ⟨_, pid, _, td, cdata, rdata, co, s, -, -, hcd, hco, hrd, hs, rfl, rfl, rfl⟩ :=
    read_inv h
  exact ⟨cdata, co, rdata, hcd, hco, hrd, (readRegs_wf hco hs).1⟩

theorem toInstR_C (parts : List Part) (courses : List Course) (rooms : Option (List Nat)) :
    (toInstR parts courses rooms).C = courses.length := by simp [toInstR, N2.Inst.C]

theorem toInstR_P (parts : List Part) (courses : List Course) (rooms : Option (List Nat)) :
    (toInstR parts courses rooms).P = parts.length := by simp [toInstR, N2.Inst.P]

theorem toInstR_allInstructors (parts : List Part) (courses : List Course) (rooms : Option (List Nat)) :
    (toInstR parts courses rooms).allInstructors = allInstr courses := by
  simp only [toInstR, N2.Inst.allInstructors, allInstr, List.flatMap_map]

theorem toInstR_choice_mem {parts : List Part} {courses : List Course} {rooms : Option (List Nat)}
    {pt : N2.Part} {ch : N2.Choice} (hp : pt ∈ (toInstR parts courses rooms).ps) (h : ch ∈ pt.choices) :
    ∃ q ∈ parts, (ch.course, ch.penalty) ∈ q.choices := by
  simp only [toInstR, List.mem_map] at hp
  obtain ⟨q, hq, rfl⟩ := hp
  simp only [List.mem_map] at h
  obtain ⟨⟨c, pen⟩, hcp, rfl⟩ := h
  exact ⟨q, hq, hcp⟩

theorem toInstR_part_choice_mem {parts : List Part} {courses : List Course} {rooms : Option (List Nat)}
    {p : Nat} {ch : N2.Choice} (h : ch ∈ ((toInstR parts courses rooms).part p).choices) :
    ∃ q ∈ parts, (ch.course, ch.penalty) ∈ q.choices :=
  toInstR_choice_mem (N2.part_mem _ (N2.part_choices_lt _ h)) h

section
variable {rdata : List (String × J)} {t : Nat} {parts : List Part} {courses : List Course}

/-- (i) no `precompute_problem` panic: all indices are in range -/
theorem ReadWF.precomputeOk (h : ReadWF rdata t parts courses) (rooms : Option (List Nat)) :
    (toInstR parts courses rooms).precomputeOk = true := by
  simp only [N2.Inst.precomputeOk, Bool.and_eq_true, List.all_eq_true, decide_eq_true_eq, toInstR_C, toInstR_P]
  constructor
  · intro c hc i hi
    simp only [toInstR, List.mem_map] at hc
    obtain ⟨c0, hc0, rfl⟩ := hc
    exact h.instr_lt c0 hc0 i hi
  · intro p hp ch hch
    obtain ⟨q, hq, hm⟩ := toInstR_choice_mem hp hch
    exact h.choice_lt q hq _ hm

theorem ReadWF.minMaxb (h : ReadWF rdata t parts courses) (rooms : Option (List Nat)) :
    (toInstR parts courses rooms).cs.all (fun c => decide (c.numMin ≤ c.numMax)) = true := by
  simp only [List.all_eq_true, decide_eq_true_eq, toInstR, List.mem_map]
  rintro c ⟨c0, hc0, rfl⟩
  exact h.min_le_max c0 hc0

theorem ReadWF.minMax (h : ReadWF rdata t parts courses) (rooms : Option (List Nat)) :
    ∀ c, c < (toInstR parts courses rooms).C →
      ((toInstR parts courses rooms).course c).numMin ≤ ((toInstR parts courses rooms).course c).numMax := by
  intro c hc
  have := h.minMaxb rooms
  simp only [List.all_eq_true, decide_eq_true_eq] at this
  exact this _ (N2.course_mem _ hc)

theorem ReadWF.nodupb (h : ReadWF rdata t parts courses) (rooms : Option (List Nat)) :
    N2.nodupb (toInstR parts courses rooms).allInstructors = true := by
  rw [N2.nodupb_iff, toInstR_allInstructors]; exact h.nodup

theorem ReadWF.pen_lt (h : ReadWF rdata t parts courses) (rooms : Option (List Nat)) :
    ∀ p ch, ch ∈ ((toInstR parts courses rooms).part p).choices →
      ∃ k v chs, (k, v) ∈ rdata ∧ regChoices v t = some chs ∧ ch.penalty < chs.length := by
  intro p ch hch
  obtain ⟨q, hq, hm⟩ := toInstR_part_choice_mem hch
  obtain ⟨k, v, h1, -, chs, h3, h4⟩ := h.pen q hq
  exact ⟨k, v, chs, h1, h3, h4 _ hm⟩

/-- `InstOK2` of the converted instance when no penalty exceeds the weight offset 50000 -/
theorem ReadWF.instOK2 (h : ReadWF rdata t parts courses) (rooms : Option (List Nat))
    (hpen : ∀ p ∈ parts, ∀ ch ∈ p.choices, ch.2 ≤ N2.WEIGHT) :
    N2.InstOK2 (toInstR parts courses rooms) := by
  refine N2.instOK2_of _ (h.precomputeOk rooms) ((N2.nodupb_iff _).1 (h.nodupb rooms)) ?_
  intro p ch hch
  obtain ⟨q, hq, hm⟩ := toInstR_part_choice_mem hch
  exact hpen q hq _ hm

end

theorem read_instOK2_of_len {data : J} {o : Opts} {parts : List Part} {courses : List Course}
    {amb : Ambience} (h : read data o = .ok (parts, courses, amb)) (rooms : Option (List Nat))
    (hlen : ∀ rdata, (data.get "registrations").bind J.asObject = some rdata →
      ∀ kv ∈ rdata, ∀ chs, regChoices kv.2 amb.trackId = some chs → chs.length ≤ N2.WEIGHT + 1) :
    N2.InstOK2 (toInstR parts courses rooms) ∧
      ∀ c, c < (toInstR parts courses rooms).C →
        ((toInstR parts courses rooms).course c).numMin ≤ ((toInstR parts courses rooms).course c).numMax := by
  obtain ⟨rdata, hrd, wf⟩ := read_wellformed h
  refine ⟨wf.instOK2 rooms fun p hp ch hch => ?_, wf.minMax rooms⟩
  obtain ⟨k, v, h1, -, chs, h3, h4⟩ := wf.pen p hp
  have := hlen rdata hrd (k, v) h1 chs h3
  have := h4 ch hch
  omega

theorem read_eq_of {data : J} {o : Opts} {ts : String} {ev parts : List (String × J)} {pid tid : Nat}
    {td cdata rdata : List (String × J)} {co : CoursesOut} {s : RState} {eid : Nat} {tn : String}
    (h1 : checkVersion data = .ok ()) (h2 : (data.get "timestamp").bind J.asStr = some ts)
    (h3 : timestampOk ts = true) (h4 : (data.get "event").bind J.asObject = some ev)
    (h5 : (J.lookup "parts" ev).bind J.asObject = some parts)
    (h6 : findTrack parts o.track = .ok (pid, tid, td))
    (h7 : (data.get "courses").bind J.asObject = some cdata) (h8 : readCourses cdata tid o = .ok co)
    (h9 : (data.get "registrations").bind J.asObject = some rdata)
    (h10 : readRegs rdata pid tid td co o = .ok s) (h11 : (data.get "id").bind J.asU64 = some eid)
    (h12 : (J.lookup "shortname" td).bind J.asStr = some tn) :
    ∃ amb, read data o = .ok (s.parts, s.courses.map adapt, amb) ∧ amb.trackId = tid :=
  ⟨_, read_ok_iff.2 ⟨_, _, _, _, _, _, _, _, _, _, _, _, h1, h2, h3, h4, h5, h6, h7, h8, h9, h10, h11, h12,
    rfl⟩, rfl⟩

theorem readCourses_eq {cdata : List (String × J)} {t : Nat} {o : Opts} {acc : List (String × Course)}
    {sk : List Nat} {n : Nat} (h : readCourses.go t o [] [] 0 cdata = .ok (acc, sk, n)) :
    readCourses cdata t o = .ok { courses := (acc.mergeSort (fun a b => decide (a.1 ≤ b.1))).map (·.2),
                                  skipped := sk, numIgnored := n } := by
  unfold readCourses; rw [h]

def exN (k : Nat) : J := .num (.pos k)
def exCourses : List (String × J) := [
    ("1", .obj [("fields", .obj []), ("max_size", exN 10), ("min_size", exN 2), ("nr", .str "1"),
                ("segments", .obj [("1", .bool true)]), ("shortname", .str "A")]),
    ("2", .obj [("fields", .obj []), ("nr", .str "2"),
                ("segments", .obj [("1", .bool true)]), ("shortname", .str "B")])]
def exRegs : List (String × J) := [
    ("1", .obj [("parts", .obj [("1", .obj [("status", exN 2)])]),
                ("persona", .obj [("family_name", .str "X"), ("given_names", .str "Y")]),
                ("tracks", .obj [("1", .obj [("choices", .arr [exN 2, exN 1]), ("course_id", .null),
                                            ("course_instructor", exN 1)])])]),
    ("2", .obj [("parts", .obj [("1", .obj [("status", exN 2)])]),
                ("persona", .obj [("family_name", .str "X"), ("given_names", .str "Z")]),
                ("tracks", .obj [("1", .obj [("choices", .arr [exN 1]), ("course_id", .null),
                                            ("course_instructor", .null)])])])]
def exDoc : J := .obj [
  ("EVENT_SCHEMA_VERSION", .arr [exN 17, exN 0]),
  ("courses", .obj exCourses),
  ("event", .obj [("parts", .obj [("1", .obj [("tracks", .obj [("1", .obj [("shortname", .str "T")])])])])]),
  ("id", exN 1),
  ("kind", .str "partial"),
  ("registrations", .obj exRegs),
  ("timestamp", .str "2020-01-01T00:00:00Z")]
def exOpts : Opts := ⟨none, false, false, none, none⟩

def exAcc : List (String × Course) := [
  ("         1", { dbid := 1, name := "1. A", numMin := 2, numMax := 10, instructors := [], factor := .dflt,
                   offset := .dflt, fixed := false, hidden := [] }),
  ("         2", { dbid := 2, name := "2. B", numMin := 0, numMax := 25, instructors := [], factor := .dflt,
                   offset := .dflt, fixed := false, hidden := [] })]

/-- non-vacuity of `read_instOK2_of_len`: a concrete export (two courses, two registrations, the first
    instructing course 1 and choosing both courses) on which `read` succeeds and the bound on the
    choice lists holds -/
example : ∃ parts courses amb, read exDoc exOpts = .ok (parts, courses, amb) ∧
    parts.length = 2 ∧ courses.length = 2 ∧
    (∀ rdata, (exDoc.get "registrations").bind J.asObject = some rdata →
      ∀ kv ∈ rdata, ∀ chs, regChoices kv.2 amb.trackId = some chs → chs.length ≤ N2.WEIGHT + 1) := by
  have hgo : readCourses.go 1 exOpts [] [] 0 exCourses = .ok (exAcc, [], 0) := by rfl
  have hsort : exAcc.mergeSort (fun a b => decide (a.1 ≤ b.1)) = exAcc := by
    simp [exAcc, List.mergeSort]
  have hco := readCourses_eq hgo
  rw [hsort] at hco
  obtain ⟨s, hs, hlen⟩ : ∃ s, readRegs exRegs 1 1 [("shortname", .str "T")]
      { courses := exAcc.map (·.2), skipped := [], numIgnored := 0 } exOpts = .ok s ∧
      s.parts.length = 2 ∧ s.courses.length = 2 := ⟨_, by rfl, by rfl, by rfl⟩
  obtain ⟨amb, hread, hamb⟩ := read_eq_of (data := exDoc) (o := exOpts) (ts := "2020-01-01T00:00:00Z")
    (tn := "T") (eid := 1) (by rfl) (by rfl) (by decide +kernel) (by rfl) (by rfl) (by rfl) (by rfl) hco (by rfl) hs
    (by rfl) (by rfl)
  refine ⟨_, _, amb, hread, hlen.1, by rw [List.length_map]; exact hlen.2, ?_⟩
  intro rdata hrd kv hkv chs hchs
  have : rdata = exRegs := by
    have : (exDoc.get "registrations").bind J.asObject = some exRegs := by rfl
    rw [this] at hrd; exact (Option.some.inj hrd).symm
  subst this
  rw [hamb] at hchs
  simp only [exRegs, List.mem_cons, List.not_mem_nil, or_false] at hkv
  rcases hkv with rfl | rfl
  · have : chs = [exN 2, exN 1] := (Option.some.inj hchs).symm
    subst this; decide
  · have : chs = [exN 1] := (Option.some.inj hchs).symm
    subst this; decide

#print axioms read_wellformed
#print axioms read_choice_position
#print axioms read_instOK2_of_len
end CD
