import Mathlib.Algebra.BigOperators.Group.Finset.Piecewise
import Cdecao.Proofs.NodeFeasible
import Cdecao.Proofs.Relax
import Cdecao.Proofs.HungTotal
import Cdecao.Proofs.SelComplete
/-! C10 at node level: for a well-formed instance and a node satisfying `NodeOK2` no panic site of
    `runNodeS` is reachable. The early exits do not panic (`guards_no_panic`); the node's Hungarian input
    admits a constrained perfect matching, so the matching returns (`node_admits`, `hungarian_returns`); the
    room check answers when the room list has one entry per course (`checkRoom_ok`); an enforced course has
    its minimum after the matching, so `check_feasibility` never trips its assertion (`enforced_min`,
    `checkFeas_ok`). Together: `node_total`. -/
open Finset
namespace N2
open H2

theorem live_some {I : Inst} {nd : Node} {x : Nat} (h : liveInstructor I nd x = true) :
    I.isInstructorSomewhere x = true :=
  let ⟨c, hc, _, hin⟩ := liveInstructor_iff.1 h
  List.any_eq_true.2 ⟨I.course c, course_mem I hc, List.contains_iff_mem.2 hin⟩

theorem numSkipX_le (I : Inst) (nd : Node) (hp : I.precomputeOk = true) : numSkipX I nd ≤ I.maxSkipped := by
  rw [numSkipX_eq I nd hp, Inst.maxSkipped, countP_range_eq_card]
  refine card_le_card fun x hx => ?_
  simp only [mem_filter, mem_range, Bool.or_eq_true] at hx ⊢
  exact ⟨hx.1, (skipXBase_eq_true_iff.1 hx.2).imp (·.2) live_some⟩

theorem effMax_ge {I : Inst} {nd : Node} (hn : NodeOK2 I nd) {c : Nat} (hc : c ∉ nd.cancelled)
    (hmm : (I.course c).numMin ≤ (I.course c).numMax) : (I.course c).numMin ≤ effMax I nd c :=
  (le_effMax_iff hc).2 ⟨hmm, fun cs hcs he => he ▸ (hn.shr cs hcs).2⟩

theorem sum_eff (I : Inst) (nd : Node) :
    (List.range I.C).foldl (fun acc c => acc + effMax I nd c) 0 + numSkipY I nd = I.m := by
  rw [numSkipY, foldl_add_eq_sum, foldl_add_eq_sum, m_eq]
  exact Cols.sum_eff (numMaxOf I) (effMax I nd) I.C fun c _ => effMax_le I nd c

theorem guards_no_panic (I : Inst) (nd : Node) (hI : InstOK I)
    (hmm : ∀ c, c < I.C → (I.course c).numMin ≤ (I.course c).numMax) (hn : NodeOK2 I nd) (e : String) :
    guards I nd ≠ some (.error e) := by
  intro hg
  obtain h | h | ⟨hplaces, h⟩ := guards_eq_error hg
  · rw [hI.pre] at h; cases h
  · exact h ⟨fun c hc => (hn.canc c hc).1, hn.enf, fun cs hcs => (hn.shr cs hcs).1⟩
  · have hsx := numSkipX_le I nd hI.pre
    have hse := sum_eff I nd
    have hn' := m_add_le_n I
    rcases h with h | h | ⟨cp, -, hm, hs⟩
    · omega
    · omega
    · -- a mandatory column is never skipped
      rw [mandY_iff] at hm
      rw [skipY, decide_eq_true_eq] at hs
      have hc := hn.enf _ hm.1
      have hnc : I.colCourse cp ∉ nd.cancelled := fun hcan => (hn.canc _ hcan).2.2 hm.1
      have := effMax_ge hn hnc (hmm _ hc)
      omega

#print axioms guards_no_panic

theorem sum_mem_le_foldl (C : Nat) (f : Nat → Nat) (l : List Nat) :
    ∑ c ∈ range C, (if l.contains c = true then f c else 0) ≤ l.foldl (fun acc c => acc + f c) 0 := by
  -- the list sum counts every member at least once
  rw [foldl_add_eq_list_sum, Finset.sum_list_map_count, ← sum_filter]
  refine (sum_le_sum_of_subset_of_nonneg (fun c hc => ?_) fun _ _ _ => Nat.zero_le _).trans
    (sum_le_sum fun c hc => ?_)
  · exact List.mem_toFinset.2 (List.contains_iff_mem.1 (mem_filter.1 hc).2)
  · exact Nat.le_mul_of_pos_left _ (List.count_pos_iff.2 (List.mem_toFinset.1 hc))

theorem node_admits (I : Inst) (nd : Node) (hI : InstOK I)
    (hmm : ∀ c, c < I.C → (I.course c).numMin ≤ (I.course c).numMax) (hn : NodeOK2 I nd)
    (hg : guards I nd = none) : ∃ τ, Admits (nodeInp I nd) τ := by
  classical
  have hp := (guards_eq_none_iff I nd).1 hg
  obtain ⟨D, hRD, hsq, hperf⟩ := node_problem hp
  set Y := (probOf (nodeInp I nd)).Y with hY
  set Rr := (range I.P).filter (fun x => skipXBase I nd x = false)
  let Mand := Y.filter (fun cp => mandY I nd cp = true)
  have hRcard : I.P - numSkipX I nd ≤ #Rr := Nat.sub_le_iff_le_add.2 (active_card I nd hp.pre).ge
  have hMcard : #Mand ≤ nd.enforced.foldl (fun acc c => acc + (I.course c).numMin) 0 := by
    calc #Mand ≤ #((range I.m).filter (fun cp => mandY I nd cp = true)) :=
          card_le_card (filter_subset_filter _ (by rw [hY, liveCols_eq]; exact filter_subset _ _))
      _ = ∑ c ∈ range I.C, (if nd.enforced.contains c = true then (I.course c).numMin else 0) :=
          mand_total I nd hmm
      _ ≤ _ := sum_mem_le_foldl I.C (fun c => (I.course c).numMin) nd.enforced
  -- too few real rows for the mandatory columns would have been an early exit
  obtain ⟨σ, hσ1, hσ2, hσ3⟩ := exists_constrained_bijection Rr D Y Mand hRD (filter_subset _ _) hsq
    (hMcard.trans (hp.enfSum.trans hRcard))
  -- σ is a perfect matching; the matching wanted is its inverse
  exact admits_of_perfect (node_square I nd hp.pre hp.under hp.fit) (hperf σ hσ1 hσ2 hσ3)

/-- C10 core: for a well-formed instance and a node of the tree, the matching step never panics -/
theorem hungarian_returns (I : Inst) (nd : Node) (hI : InstOK I)
    (hmm : ∀ c, c < I.C → (I.course c).numMin ≤ (I.course c).numMax) (hn : NodeOK2 I nd)
    (hg : guards I nd = none) : ∃ r, H2.run (nodeInp I nd) = some r := by
  obtain ⟨τ, hτ⟩ := node_admits I nd hI hmm hn hg
  exact hung_total (nodeInp I nd) τ hτ

#print axioms hungarian_returns

theorem createRCS_false_some (I : Inst) (R : RoomFns) (nd : Node) (toSize : Nat) :
    ∀ (l : List Nat) (sh : List (Nat × Nat)) (ca : List Nat), ∃ r, createRCS I R nd toSize false l sh ca = some r := by
  intro l
  induction l with
  | nil => intro sh ca; exact ⟨_, rfl⟩
  | cons ci rest ih =>
    intro sh ca
    rcases createRCS_step I R nd toSize false ci rest sh ca with h | ⟨_, h⟩ | ⟨_, h⟩ <;> rw [h]
    · exact ih _ _
    · exact ih _ _
    · exact ih _ _

theorem createRCS_true_len {I : Inst} {R : RoomFns} {nd : Node} {toSize : Nat} {l : List Nat} :
    ∀ {sh : List (Nat × Nat)} {ca : List Nat} {r : RCS},
      createRCS I R nd toSize true l sh ca = some r → r.shrink.length + r.cancel.length = sh.length + ca.length + l.length := by
  induction l with
  | nil => intro sh ca r h; cases h; rfl
  | cons ci rest ih =>
    intro sh ca r h
    rcases createRCS_step I R nd toSize true ci rest sh ca with h' | ⟨_, h'⟩ | ⟨_, h'⟩ <;> rw [h'] at h
    · cases h
    · have := ih h; simp only [List.length_append, List.length_cons, List.length_nil] at this ⊢; omega
    · have := ih h; simp only [List.length_append, List.length_cons, List.length_nil] at this ⊢; omega

theorem selections_len {α : Type} {l : List α} {k : Nat} {sel : List α} (hsel : sel ∈ selections l k) :
    sel.length = k ∧ 0 < k := by
  obtain ⟨hk, idx, hidx, rfl⟩ := mem_selections hsel
  obtain ⟨-, h2, h1⟩ := (S.mem_colexIdx _ _ idx).1 hidx
  refine ⟨?_, hk⟩
  rw [← h1]
  -- every index is in range, so `filterMap` keeps everything
  clear h1 hidx hsel
  induction idx with
  | nil => rfl
  | cons i rest ih =>
    have hi : i < l.length := h2 i (by simp)
    simp only [List.filterMap_cons, List.getElem?_eq_getElem hi, List.length_cons]
    rw [ih (fun j hj => h2 j (by simp [hj]))]

theorem mem_zip_rev_range {n : Nat} {rooms : List Nat} {ci r0 : Nat}
    (h : (ci, r0) ∈ (List.range n).reverse.zip rooms) : ci < n ∧ rooms[n - 1 - ci]? = some r0 := by
  obtain ⟨k, hk⟩ := List.mem_iff_getElem?.1 h
  obtain ⟨h1, h2⟩ := List.getElem?_zip_eq_some.1 hk
  have hkn : k < n := by simpa using (List.getElem?_eq_some_iff.1 h1).1
  rw [List.getElem?_reverse (by simpa using hkn), List.length_range, List.getElem?_range (by omega),
    Option.some.injEq] at h1
  exact ⟨by omega, by rw [show n - 1 - ci = k by omega]; exact h2⟩

theorem sets_nonempty (I : Inst) (R : RoomFns) (nd : Node) (r0 : Nat) (always : RCS) (srcs : List (Nat × Nat)) (k : Nat) :
    ((selections srcs k).filterMap (fun sel =>
        (createRCS I R nd r0 true (sel.map (·.1)) [] []).map (fun r =>
          ({ shrink := r.shrink ++ always.shrink, cancel := r.cancel ++ always.cancel } : RCS)))).any
      (fun r => r.shrink.isEmpty && r.cancel.isEmpty) = false := by
  rw [Bool.eq_false_iff]
  intro hany
  rw [List.any_eq_true] at hany
  obtain ⟨rc, hrc, hemp⟩ := hany
  simp only [List.mem_filterMap, Option.map_eq_some_iff] at hrc
  obtain ⟨sel, hsel, r1, hr1, rfl⟩ := hrc
  obtain ⟨hl, hk⟩ := selections_len hsel
  have := createRCS_true_len hr1
  simp only [List.length_nil, List.length_map, Nat.zero_add] at this
  simp only [Bool.and_eq_true, List.isEmpty_iff, List.append_eq_nil_iff] at hemp
  rw [hemp.1.1, hemp.2.1] at this
  simp only [List.length_nil] at this
  omega

/-- C10: the room stage has no reachable panic site -/
theorem checkRoom_ok (I : Inst) (R : RoomFns) (nd : Node) (a : Nat → Option Nat) (rooms : List Nat)
    (hlen : rooms.length = I.C) : ∃ r, checkRoom I R nd a rooms = .ok r := by
  have hnum : (stableByKey (effSizes I R a)).length = I.C := by
    rw [stableByKey, List.length_mergeSort, effSizes, List.length_map, List.length_range]
  unfold checkRoom
  dsimp only
  split
  · exact ⟨_, rfl⟩
  · rename_i ci r0 hfind
    have hmem := List.mem_of_find?_eq_some hfind
    have hp := List.find?_some hfind
    obtain ⟨hci, hroom⟩ := mem_zip_rev_range hmem
    rw [hnum] at hci hroom
    have hrs : rooms.getD (rooms.length - 1 - ci) 0 = r0 := by
      rw [hlen, List.getD_eq_getElem?_getD, hroom]; rfl
    rw [hrs]
    simp only [decide_eq_true_eq] at hp
    split
    · rename_i hnone
      exfalso
      rw [List.find?_eq_none] at hnone
      have := hnone ci (by rw [hnum]; simpa using hci)
      simp only [decide_eq_true_eq] at this
      exact this hp
    · rename_i smallest hsm
      have hle : ¬ ci < smallest := fun hlt => by
        have := (List.find?_range_eq_some.1 hsm).2.2 ci hlt
        simp only [Bool.not_eq_true', decide_eq_false_iff_not] at this
        exact this hp
      rw [if_neg hle]
      obtain ⟨always, halways⟩ := createRCS_false_some I R nd r0
        ((List.filter (fun cs => decide (cs.2 ≤ r0)) (stableByKey (effSizes I R a))).map (·.1)) [] []
      simp only [halways]
      rw [sets_nonempty]
      exact ⟨_, rfl⟩

#print axioms checkRoom_ok

theorem roomSizes_len {I : Inst} {rooms : List Nat} (h : I.roomSizes = some rooms) : rooms.length = I.C := by
  simp only [Inst.roomSizes, Option.map_eq_some_iff] at h
  obtain ⟨r, _, rfl⟩ := h
  simp only [List.length_take, List.length_append, List.length_replicate]
  omega

theorem assign_of_matched {I : Inst} {nd : Node} {mm : Vec Nat}
    (hperf : Perfect (probOf (nodeInp I nd)) mm.get) {cp : Nat} (hcp : cp < I.m) (hs : skipY I nd cp = false) :
    assign I nd mm.get (mm.get cp) = some (I.colCourse cp) := by
  -- the row is not a live instructor, so the instructor loop leaves it alone
  have hio : instrOf I nd (mm.get cp) = none := by
    have hli := (Bool.or_eq_false_iff.1 (perfect_row hperf hcp hs).2.1).2
    rw [liveInstructor, List.any_eq_false] at hli
    rw [instrOf, List.find?_eq_none]
    exact fun c hc => hli c (List.mem_reverse.1 hc)
  -- so the matching loop decides, and the matching is injective on the live columns
  rw [assign, hio]
  -- the fields of `ctxOf` are exposed first, as in `ctxOK`
  have := G.matched_of_col (X := ctxOf I nd mm.get) (cp := cp)
  dsimp only [ctxOf] at this
  exact this (perfect_inj hperf) hcp hs

theorem enforced_min (I : Inst) (nd : Node)
    (hmm : ∀ c, c < I.C → (I.course c).numMin ≤ (I.course c).numMax) (hn : NodeOK2 I nd)
    (hg : guards I nd = none) (mm : Vec Nat) (hperf : Perfect (probOf (nodeInp I nd)) mm.get)
    (a : Nat → Option Nat) (isI : Nat → Bool)
    (hisI : ∀ p, p < I.P → isI p = skipXBase I nd p) (ha : ∀ p, p < I.P → a p = assign I nd mm.get p)
    (c : Nat) (hce : c ∈ nd.enforced) : (I.course c).numMin ≤ sizeOf I a isI c := by
  have hc : c < I.C := hn.enf c hce
  -- no mandatory column is skipped (last guard)
  have hms := ((guards_eq_none_iff I nd).1 hg).mand
  -- its `numMin` mandatory columns hold distinct active participants, all assigned to it
  unfold sizeOf
  rw [countP_range_eq_card, ← mand_card I nd c hc (hmm c hc) hce]
  apply card_le_card_of_injOn mm.get
  · intro cp hcp
    simp only [coe_filter, mem_range, Set.mem_ofPred_eq] at hcp
    obtain ⟨hcpm, hmand, hcourse⟩ := hcp
    have hs := hms cp hcpm hmand
    -- a mandatory column holds a real row
    obtain ⟨-, hact, hreal⟩ := perfect_row hperf hcpm hs
    have hxP := hreal hmand
    simp only [coe_filter, mem_range, Set.mem_ofPred_eq, Bool.and_eq_true, Bool.not_eq_true', beq_iff_eq]
    exact ⟨hxP, (hisI _ hxP).trans hact, by rw [ha _ hxP, assign_of_matched hperf hcpm hs, hcourse]⟩
  · intro cp1 h1 cp2 h2 he
    simp only [coe_filter, mem_range, Set.mem_ofPred_eq] at h1 h2
    exact perfect_inj hperf cp1 cp2 h1.1 h2.1 (hms cp1 h1.1 h1.2.1) (hms cp2 h2.1 h2.2.1) he

#print axioms enforced_min

theorem checkFeas_ok (I : Inst) (nd : Node) (a : Nat → Option Nat) (isI : Nat → Bool)
    (hmin : ∀ c, c ∈ nd.enforced → (I.course c).numMin ≤ sizeOf I a isI c) :
    ∃ r, checkFeas I nd a isI = .ok r := by
  rcases checkFeas_cases I nd a isI with ⟨_, _, -, h, -⟩ | ⟨-, h⟩
  · exact ⟨_, h⟩
  · rw [h, if_neg]
    · exact ⟨_, rfl⟩
    · -- a violated minimum is not that of an enforced course
      intro hany
      obtain ⟨c, hc, hce⟩ := List.any_eq_true.1 hany
      have := hmin c (by simpa using hce)
      have := (mem_violOf.1 hc).2.2
      omega

/-- C10 at node level: for a well-formed instance and a node satisfying the tree invariant the node
    solver has no reachable panic site -/
theorem node_total (I : Inst) (R : RoomFns) (nd : Node) (hI : InstOK I)
    (hmm : ∀ c, c < I.C → (I.course c).numMin ≤ (I.course c).numMax) (hn : NodeOK2 I nd) :
    ∃ r, runNodeS I R nd = .ok r := by
  cases hg : guards I nd with
  | some r =>
    cases r with
    | ok r => exact ⟨r, runNodeS_eq_ok_iff.2 (.inl hg)⟩
    | error e => exact absurd hg (guards_no_panic I nd hI hmm hn e)
  | none =>
    obtain ⟨⟨mm, hsc⟩, hrun⟩ := hungarian_returns I nd hI hmm hn hg
    obtain ⟨hperf, -, -⟩ := node_matching ((guards_eq_none_iff I nd).1 hg) hrun
    suffices ∃ r, post I R nd mm hsc = .ok r from
      this.imp fun r h => runNodeS_eq_ok_iff.2 (.inr ⟨hg, mm, hsc, hrun, h⟩)
    obtain ⟨⟨b, pp, bc⟩, hcf⟩ := checkFeas_ok I nd (asgOf I nd mm) (nodeInp I nd).skipx.get
      (enforced_min I nd hmm hn hg mm hperf _ _ (skipx_get I nd) (fun p hp => asgOf_eq I nd mm hp))
    obtain ⟨rf, hrf⟩ : ∃ r, feasStage I nd (asgOf I nd mm) (hsc.toNat + bonusOf I nd) = .ok r :=
      ⟨_, feasStage_eq_ok_iff.2 ⟨b, pp, bc, hcf, rfl⟩⟩
    cases hrs : I.roomSizes with
    | none =>
      exact ⟨_, post_eq_ok_iff.2 (.inr ⟨roomStage_eq_none_iff.2 fun _ h => (by rw [hrs] at h; cases h), hrf⟩)⟩
    | some rooms =>
      obtain ⟨⟨b, sets⟩, hcr⟩ := checkRoom_ok I R nd (asgOf I nd mm) rooms (roomSizes_len hrs)
      cases b
      · exact ⟨_, post_eq_ok_iff.2 (.inl (roomStage_eq_some_iff.2 ⟨rooms, sets, hrs, hcr, rfl⟩))⟩
      · refine ⟨_, post_eq_ok_iff.2 (.inr ⟨roomStage_eq_none_iff.2 fun _ h => ?_, hrf⟩)⟩
        rw [hrs] at h; cases h
        exact ⟨sets, hcr⟩

#print axioms node_total
end N2
