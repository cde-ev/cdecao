import Mathlib.Data.Fintype.Sum
import Mathlib.Data.Fintype.Card
import Mathlib.Data.Finset.Card
/-! The combinatorial heart of the relaxation bound (C02/C03): a relaxed-feasible placement
    `g` of the real rows into courses can be realised by a constrained perfect matching of the
    place matrix in which every real row sits in a column of its own course. Its one-course case
    (`exists_constrained_bijection`) is the abstract form of what `run_bab_node`'s first early exit
    guarantees: a constrained perfect matching exists whenever there are at most as many mandatory
    columns as real rows. -/
open Finset

/-- an injection `f` of a part `R` of `A` into `B`, where `A` and `B` have the same size, extends to a bijection
    of `A` with `B`; `σ` is its inverse -/
theorem exists_inv_extend (A B R : Finset Nat) (f : Nat → Nat) (h : #A = #B) (hR : R ⊆ A)
    (hf : ∀ a ∈ R, f a ∈ B) (hinj : Set.InjOn f R) :
    ∃ σ : Nat → Nat, (∀ b ∈ B, σ b ∈ A) ∧ Set.InjOn σ B ∧ ∀ a ∈ R, σ (f a) = a := by
  obtain ⟨G, hG⟩ := Set.MapsTo.exists_equiv_extend_of_card_eq (α := ↥A) (t := B)
    (s := {x | (x : Nat) ∈ R}) (f := fun x => f x) (by simp [h]) (fun x hx => hf x hx)
    (fun x1 h1 x2 h2 e => Subtype.ext (hinj h1 h2 e))
  refine ⟨fun b => if hb : b ∈ B then (G.symm ⟨b, hb⟩ : Nat) else 0, fun b hb => ?_, fun b1 h1 b2 h2 heq => ?_,
    fun a ha => ?_⟩
  · simp only [hb, dif_pos]; exact (G.symm ⟨b, hb⟩).2
  · have h1' : b1 ∈ B := h1
    have h2' : b2 ∈ B := h2
    simp only [h1', h2', dif_pos] at heq
    simpa using G.symm.injective (Subtype.ext heq)
  · have : G ⟨a, hR ha⟩ = ⟨f a, hf a ha⟩ := Subtype.ext (hG ⟨a, _⟩ ha)
    simp only [hf a ha, dif_pos]
    rw [← this, Equiv.symm_apply_apply]

theorem exists_bij_fun (A B : Finset Nat) (h : #A = #B) :
    ∃ f : Nat → Nat, Set.InjOn f A ∧ (∀ a ∈ A, f a ∈ B) ∧ (∀ b ∈ B, ∃ a ∈ A, f a = b) := by
  obtain ⟨f, h1, h2, -⟩ := exists_inv_extend B A ∅ id h.symm (empty_subset _) (by simp) (by simp)
  exact ⟨f, h2, h1, fun b hb => surjOn_of_injOn_of_card_le f h1 h2 h.ge hb⟩

/-- `R` real rows, `D` dummy rows, `Y` columns, `course y` the course of a column, `Mand ⊆ Y`.
    `g p` is the course of real row `p`. Capacity: no course gets more rows than it has columns;
    minimum: every course gets at least as many rows as it has mandatory columns. -/
theorem exists_matching_of_placement (R D Y Mand : Finset Nat) (course g : Nat → Nat)
    (hM : Mand ⊆ Y) (hsq : #(R ∪ D) = #Y)
    (hcap : ∀ c, #(R.filter (fun p => g p = c)) ≤ #(Y.filter (fun y => course y = c)))
    (hmin : ∀ c, #(Mand.filter (fun y => course y = c)) ≤ #(R.filter (fun p => g p = c))) :
    ∃ σ : Nat → Nat, (∀ y ∈ Y, σ y ∈ R ∪ D) ∧ Set.InjOn σ Y ∧ (∀ y ∈ Mand, σ y ∈ R) ∧
      (∀ p ∈ R, ∃ y ∈ Y, σ y = p ∧ course y = g p) := by
  classical
  -- per course: a set of columns containing the mandatory ones, in bijection with the rows of the course
  have hc : ∀ c, ∃ (Yc : Finset Nat) (f : Nat → Nat),
      Mand.filter (fun y => course y = c) ⊆ Yc ∧ Yc ⊆ Y.filter (fun y => course y = c) ∧
      Set.InjOn f (R.filter (fun p => g p = c)) ∧ (∀ p ∈ R.filter (fun p => g p = c), f p ∈ Yc) ∧
      (∀ y ∈ Yc, ∃ p ∈ R.filter (fun p => g p = c), f p = y) := by
    intro c
    obtain ⟨Yc, h1, h2, h3⟩ := exists_subsuperset_card_eq
      (show Mand.filter (fun y => course y = c) ⊆ Y.filter (fun y => course y = c) from
        filter_subset_filter _ hM) (hmin c) (hcap c)
    obtain ⟨f, f1, f2, f3⟩ := exists_bij_fun (R.filter (fun p => g p = c)) Yc h3.symm
    exact ⟨Yc, f, h1, h2, f1, f2, f3⟩
  choose Yc f hMc hYc finj fmem fsurj using hc
  -- the placement as a function row ↦ column
  let h : Nat → Nat := fun p => f (g p) p
  have h_Y : ∀ p ∈ R, h p ∈ Y ∧ course (h p) = g p := fun p hp => by
    simpa using hYc (g p) (fmem (g p) p (by simp [hp]))
  have h_inj : Set.InjOn h R := by
    intro p1 h1 p2 h2 heq
    have hp1 : p1 ∈ R := h1
    have hp2 : p2 ∈ R := h2
    have hg : g p1 = g p2 := by rw [← (h_Y p1 hp1).2, ← (h_Y p2 hp2).2, heq]
    simp only [h] at heq
    rw [← hg] at heq
    exact finj (g p1) (by simp [hp1]) (by simp [hp2, hg]) heq
  -- every mandatory column is hit
  have h_mand : ∀ y ∈ Mand, ∃ p ∈ R, h p = y := by
    intro y hy
    have : y ∈ Yc (course y) := hMc (course y) (by simp [hy])
    obtain ⟨p, hp, hpy⟩ := fsurj (course y) y this
    simp only [mem_filter] at hp
    exact ⟨p, hp.1, by simp only [h, hp.2]; exact hpy⟩
  -- extend the placement to a bijection of all rows with all columns; `σ` is its inverse
  obtain ⟨σ, σ_maps, σ_inj, hσ⟩ :=
    exists_inv_extend (R ∪ D) Y R h hsq subset_union_left (fun p hp => (h_Y p hp).1) h_inj
  refine ⟨σ, σ_maps, σ_inj, fun y hy => ?_, fun p hp => ⟨h p, (h_Y p hp).1, hσ p hp, (h_Y p hp).2⟩⟩
  obtain ⟨p, hp, rfl⟩ := h_mand y hy
  exact (hσ p hp).symm ▸ hp

#print axioms exists_matching_of_placement

/-- rows `X = R ∪ D` (real, dummy), columns `Y ⊇ Mand`; a pair is forbidden iff dummy × mandatory -/
theorem exists_constrained_bijection (R D Y Mand : Finset Nat) (hRD : Disjoint R D) (hM : Mand ⊆ Y)
    (hsq : #(R ∪ D) = #Y) (hle : #Mand ≤ #R) :
    ∃ σ : Nat → Nat, (∀ y ∈ Y, σ y ∈ R ∪ D) ∧ Set.InjOn σ Y ∧ (∀ y ∈ Mand, σ y ∈ R) := by
  have hRY : #R ≤ #Y := hsq ▸ card_le_card subset_union_left
  -- the case of `exists_matching_of_placement` with one course that holds every row and every column
  obtain ⟨σ, h1, h2, h3, _⟩ := exists_matching_of_placement R D Y Mand (fun _ => 0) (fun _ => 0) hM hsq
    (fun c => by by_cases hc : 0 = c <;> simp [hc, hRY]) (fun c => by by_cases hc : 0 = c <;> simp [hc, hle])
  exact ⟨σ, h1, h2, h3⟩

#print axioms exists_constrained_bijection
