import Cdecao.Model.Score
/-! Helper lemmas for the wrapping u32 sum `QM.sumU32`. Core only. -/
namespace QM
open N2 N2.G

theorem foldl_u32_exact (l : List Nat) (acc : Nat) (h : acc + l.sum < 2^32) :
    l.foldl (fun acc x => (acc + x) % 2^32) acc = acc + l.sum := by
  induction l generalizing acc with
  | nil => simp
  | cons x xs ih =>
    simp only [List.foldl_cons, List.sum_cons] at h ⊢
    have hx : (acc + x) % 2^32 = acc + x := Nat.mod_eq_of_lt (by omega)
    rw [hx, ih (acc + x) (by omega)]; omega

theorem sum_le_length_mul (l : List Nat) (b : Nat) (hb : ∀ x ∈ l, x ≤ b) :
    l.sum ≤ l.length * b := by
  induction l with
  | nil => simp
  | cons x xs ih =>
    have h1 : x ≤ b := hb x (by simp)
    have h2 := ih (fun y hy => hb y (by simp [hy]))
    simp only [List.sum_cons, List.length_cons, Nat.add_mul, Nat.one_mul]
    omega

end QM
