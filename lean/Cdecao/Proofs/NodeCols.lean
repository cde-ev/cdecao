import Cdecao.Model.Node
import Cdecao.Proofs.Square
/-! Lemmas next to the definitions of Model/Node.lean, and the column structure of the node model: it is that
    of `Cols`, so the counts of live and mandatory columns hold in the node's own terms. -/
namespace N2

theorem course_mem (I : Inst) {c : Nat} (hc : c < I.C) : I.course c ∈ I.cs := by
  simp only [Inst.course, Inst.C] at hc ⊢
  simp [List.getD_eq_getElem?_getD, List.getElem?_eq_getElem hc]

theorem part_mem (I : Inst) {p : Nat} (hp : p < I.P) : I.part p ∈ I.ps := by
  simp only [Inst.part, Inst.P] at hp ⊢
  simp [List.getD_eq_getElem?_getD, List.getElem?_eq_getElem hp]

/-- `precompute_problem` does not panic on its instructor lists: every listed instructor is a participant -/
theorem instructor_lt {I : Inst} (h : I.precomputeOk = true) {c : Course} (hc : c ∈ I.cs) {i : Nat}
    (hi : i ∈ c.instructors) : i < I.P := by
  simp only [Inst.precomputeOk, Bool.and_eq_true, List.all_eq_true, decide_eq_true_eq] at h
  exact h.1 c hc i hi

theorem liveInstructor_iff {I : Inst} {nd : Node} {x : Nat} :
    liveInstructor I nd x = true ↔ ∃ c, c < I.C ∧ c ∉ nd.cancelled ∧ x ∈ (I.course c).instructors := by
  simp only [liveInstructor, List.any_eq_true, List.mem_range, Bool.and_eq_true, Bool.not_eq_true',
    List.contains_eq_mem, decide_eq_false_iff_not, decide_eq_true_eq]

theorem skipXBase_eq_true_iff {I : Inst} {nd : Node} {x : Nat} :
    skipXBase I nd x = true ↔ (x < I.P ∧ I.instructorOnly x = true) ∨ liveInstructor I nd x = true := by
  simp only [skipXBase, Bool.or_eq_true, Bool.and_eq_true, decide_eq_true_eq]

theorem mandY_iff {I : Inst} {nd : Node} {cp : Nat} : mandY I nd cp = true ↔
    I.colCourse cp ∈ nd.enforced ∧ I.colPos cp < (I.course (I.colCourse cp)).numMin := by
  simp only [mandY, Bool.and_eq_true, List.contains_iff_mem, decide_eq_true_eq]

def numMaxOf (I : Inst) (c : Nat) : Nat := (I.course c).numMax

theorem inv_eq (I : Inst) : ∀ c, inv I c = Cols.inv (numMaxOf I) c := by
  intro c
  induction c with
  | zero => rfl
  | succ c ih => simp [inv, Cols.inv, ih, numMaxOf]

theorem courseOf_eq (I : Inst) : ∀ C cp, courseOf I C cp = Cols.courseOf (numMaxOf I) C cp := by
  intro C
  induction C with
  | zero => intro cp; rfl
  | succ C ih => intro cp; simp [courseOf, Cols.courseOf, ih, inv_eq]

theorem le_foldl_min_iff (l : List (Nat × Nat)) (a init : Nat) :
    a ≤ l.foldl (fun acc cs => min acc cs.2) init ↔ a ≤ init ∧ ∀ x ∈ l, a ≤ x.2 := by
  induction l generalizing init with
  | nil => exact ⟨fun h => ⟨h, fun _ hx => nomatch hx⟩, fun h => h.1⟩
  | cons y ys ih =>
    rw [List.foldl_cons, ih, Nat.le_min]
    exact ⟨fun h => ⟨h.1.1, fun x hx => (List.mem_cons.1 hx).elim (fun e => e ▸ h.1.2) (h.2 x)⟩,
      fun h => ⟨⟨h.1, h.2 y List.mem_cons_self⟩, fun x hx => h.2 x (List.mem_cons_of_mem _ hx)⟩⟩

theorem foldl_min_le (l : List (Nat × Nat)) (a : Nat) : l.foldl (fun acc cs => min acc cs.2) a ≤ a :=
  ((le_foldl_min_iff l _ a).1 (Nat.le_refl _)).1

theorem foldl_min_le_mem (l : List (Nat × Nat)) (a : Nat) (x : Nat × Nat) (hx : x ∈ l) :
    l.foldl (fun acc cs => min acc cs.2) a ≤ x.2 :=
  ((le_foldl_min_iff l _ a).1 (Nat.le_refl _)).2 x hx

theorem effMax_cancelled (I : Inst) (nd : Node) (c : Nat) (h : c ∈ nd.cancelled) : effMax I nd c = 0 := by
  simp [effMax, h]

theorem le_effMax_iff {I : Inst} {nd : Node} {c a : Nat} (hc : c ∉ nd.cancelled) :
    a ≤ effMax I nd c ↔ a ≤ (I.course c).numMax ∧ ∀ cs ∈ nd.shrinked, cs.1 = c → a ≤ cs.2 := by
  rw [effMax, if_neg (by simpa using hc), le_foldl_min_iff]
  simp only [List.mem_filter, beq_iff_eq, and_imp]

theorem effMax_le_all (I : Inst) (nd : Node) (c : Nat) :
    effMax I nd c ≤ numMaxOf I c ∧ ∀ cs ∈ nd.shrinked, cs.1 = c → effMax I nd c ≤ cs.2 := by
  by_cases hc : c ∈ nd.cancelled
  · rw [effMax_cancelled I nd c hc]; exact ⟨Nat.zero_le _, fun _ _ _ => Nat.zero_le _⟩
  · exact (le_effMax_iff hc).1 (Nat.le_refl _)

theorem effMax_le (I : Inst) (nd : Node) (c : Nat) : effMax I nd c ≤ numMaxOf I c := (effMax_le_all I nd c).1

theorem effMax_le_shr {I : Inst} {nd : Node} {cs : Nat × Nat} (h : cs ∈ nd.shrinked) : effMax I nd cs.1 ≤ cs.2 :=
  (effMax_le_all I nd cs.1).2 cs h rfl

/-! The column structure is that of `Cols` with `numMaxOf I` and `effMax I nd`: four equations, by which the
    counts below are those of `Cols`. -/

theorem m_eq (I : Inst) : I.m = Cols.inv (numMaxOf I) I.C := inv_eq I I.C

theorem colCourse_eq (I : Inst) : I.colCourse = Cols.courseOf (numMaxOf I) I.C := funext (courseOf_eq I I.C)

theorem skipY_eq (I : Inst) (nd : Node) : skipY I nd = Cols.skipY (numMaxOf I) (effMax I nd) I.C := by
  funext cp
  simp only [skipY, Cols.skipY, Inst.colPos, Cols.posOf, colCourse_eq, inv_eq]
  congr

theorem mandY_eq (I : Inst) (nd : Node) : mandY I nd =
    Cols.mandY (numMaxOf I) (fun c => (I.course c).numMin) (fun c => nd.enforced.contains c) I.C := by
  funext cp
  simp only [mandY, Cols.mandY, Inst.colPos, Cols.posOf, colCourse_eq, inv_eq]
  congr

theorem live_card (I : Inst) (nd : Node) (c : Nat) (hc : c < I.C) :
    ((Finset.range I.m).filter (fun cp => skipY I nd cp = false ∧ I.colCourse cp = c)).card = effMax I nd c := by
  rw [m_eq, skipY_eq, colCourse_eq]
  exact Cols.live_card (numMaxOf I) (effMax I nd) I.C c hc (effMax_le I nd c)

#print axioms live_card

theorem mand_card (I : Inst) (nd : Node) (c : Nat) (hc : c < I.C)
    (hmm : (I.course c).numMin ≤ (I.course c).numMax) (hce : c ∈ nd.enforced) :
    ((Finset.range I.m).filter (fun cp => mandY I nd cp = true ∧ I.colCourse cp = c)).card
      = (I.course c).numMin := by
  rw [m_eq, mandY_eq, colCourse_eq, Cols.mand_cols (numMaxOf I) _ _ I.C c hc hmm (by simpa using hce),
    Nat.card_Ico, Nat.add_sub_cancel_left]

theorem colCourse_live {I : Inst} {nd : Node} {cp : Nat} (hcp : cp < I.m) (hs : skipY I nd cp = false) :
    I.colCourse cp < I.C ∧ I.colCourse cp ∉ nd.cancelled := by
  rw [skipY_eq] at hs
  rw [m_eq] at hcp
  obtain ⟨h1, h2⟩ := Cols.live_course (numMaxOf I) (effMax I nd) I.C cp hcp hs
  rw [colCourse_eq]
  exact ⟨h1, fun hm => by rw [effMax_cancelled I nd _ hm] at h2; exact Nat.lt_irrefl 0 h2⟩

open Finset in
theorem mand_total (I : Inst) (nd : Node) (hmm : ∀ c, c < I.C → (I.course c).numMin ≤ (I.course c).numMax) :
    #((range I.m).filter (fun cp => mandY I nd cp = true))
      = ∑ c ∈ range I.C, (if nd.enforced.contains c = true then (I.course c).numMin else 0) := by
  rw [m_eq, mandY_eq]
  exact Cols.mand_total (numMaxOf I) (fun c => (I.course c).numMin) (fun c => nd.enforced.contains c) I.C
    (fun c hc _ => hmm c hc)

end N2
