import Cdecao.Proofs.QualityProofs
/-! `AssignmentQualityInfo::from_caobab_assignment` / `get_quality` (C08). The loop looks up the FIRST
    choice naming the assigned course, the edge weight (hence the score) uses the LAST one; with a
    course named twice under different penalties the two figures differ (`dupI`). -/
namespace QM
open N2 N2.G

/-- what participant `p` adds to (number_instructors, penalties) -/
def contrib (I : Inst) (a : Nat → Option Nat) (u f : Nat) (p : Nat) : Nat × List Nat :=
  fromAssignmentStep I a u f (0, []) p

theorem step_eq (I : Inst) (a : Nat → Option Nat) (u f : Nat) (acc : Nat × List Nat) (p : Nat) :
    fromAssignmentStep I a u f acc p =
      (acc.1 + (contrib I a u f p).1, acc.2 ++ (contrib I a u f p).2) := by
  unfold contrib fromAssignmentStep
  cases a p with
  | none => cases I.hasChoices p <;> simp
  | some c =>
    simp only
    cases I.instructs p c with
    | true => cases I.hasChoices p <;> simp
    | false =>
      simp only [Bool.false_eq_true, if_false]
      cases (I.part p).choices.find? (fun ch => ch.course == c) <;> simp

theorem foldl_fromAssignmentStep (I : Inst) (a : Nat → Option Nat) (u f : Nat) (l : List Nat)
    (acc : Nat × List Nat) :
    l.foldl (fromAssignmentStep I a u f) acc =
      (acc.1 + (l.map fun p => (contrib I a u f p).1).sum,
       acc.2 ++ l.flatMap fun p => (contrib I a u f p).2) := by
  induction l generalizing acc with
  | nil => simp
  | cons x r ih => simp [ih, step_eq, Nat.add_assoc]

theorem contrib_hard {I : Inst} {a : Nat → Option Nat} (h : HardOK I a) (u f : Nat) {p : Nat}
    (hp : p < I.P) (hnd : ((I.part p).choices.map (fun ch => ch.course)).Nodup) :
    (contrib I a u f p).1 + (contrib I a u f p).2.length = (if I.hasChoices p = true then 1 else 0) ∧
    (contrib I a u f p).2.sum = (if I.hasChoices p = true then penaltyPaid I a p else 0) := by
  unfold contrib fromAssignmentStep
  cases hc : I.hasChoices p with
  | false =>
    cases hap : a p with
    | none => simp
    | some c => simp [h.only p hp hc c hap]
  | true =>
    obtain ⟨c, hap, _, ⟨hi, hpp⟩ | ⟨hi, ch, hm, hcc, hat, hpp⟩⟩ := penaltyPaid_hard h hp hc
    · simp [hap, hi, hpp]
    · -- the loop finds the first choice naming `c`, the score the last one: the same by `hnd`
      cases hf : (I.part p).choices.find? (fun ch => ch.course == c) with
      | none => exact absurd hcc (by simpa using List.find?_eq_none.1 hf ch hm)
      | some ch' =>
        have h2 : ch'.course = c := by simpa using List.find?_some hf
        simp [hap, hi, hf, hpp, attended_unique hnd hat (List.mem_of_find?_eq_some hf) h2]

theorem getQuality_eq (q : Nat × List Nat) : getQuality q = (q.2.sum, q.1 + q.2.length) := by
  simp [getQuality, INSTRUCTOR_SCORE, Nat.add_comm]

section Example
/-- course 0 (fixed, 0–3 attendees, no instructor); participant 0 names course 0 twice, first with
    penalty 3, then with penalty 1 -/
def dupI : Inst :=
  { cs := [⟨0, 3, true, []⟩]
    ps := [⟨[⟨0, 3⟩, ⟨0, 1⟩]⟩]
    rooms := none }
def dupA : Nat → Option Nat := fun _ => some 0

/-- courses as in `exI`; participant 0 instructs course 0 and also has a choice -/
def nvI : Inst :=
  { cs := [⟨1, 2, false, [0]⟩, ⟨0, 3, true, []⟩]
    ps := [⟨[⟨1, 2⟩]⟩, ⟨[⟨0, 1⟩, ⟨1, 5⟩]⟩, ⟨[⟨1, 3⟩]⟩, ⟨[]⟩]
    rooms := none }
def nvA : Nat → Option Nat := fun p => if p = 0 then some 0 else if p = 1 then some 0 else if p = 2 then some 1 else none
end Example

end QM
