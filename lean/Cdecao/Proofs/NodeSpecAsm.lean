import Cdecao.Engine.BabOpt
import Cdecao.Proofs.AssignList
import Cdecao.Proofs.NodeEng
import Cdecao.Proofs.NodeChildren
import Cdecao.Proofs.NodeOpt
/-! Assembly of the node-level clauses into the two end-to-end facts about the caobab node solver: the
    premise `Bounded` of the engine theorems (C03, C09), with or without rooms; and, without rooms, that the
    finished search reports an assignment of maximal score among all assignments satisfying the hard
    constraints, or nothing iff there is none. -/
open Finset
namespace N2
open H2

theorem attendees_congr (I : Inst) (a a' : Nat → Option Nat) (h : ∀ p, p < I.P → a p = a' p) (c : Nat) :
    G.attendees I a c = G.attendees I a' c := by
  unfold G.attendees
  apply List.countP_congr
  intro p hp
  rw [h p (List.mem_range.1 hp)]

theorem takesPlace_congr (I : Inst) (a a' : Nat → Option Nat) (h : ∀ p, p < I.P → a p = a' p) (c : Nat)
    (ht : G.takesPlace I a c) : G.takesPlace I a' c := by
  rcases ht with h1 | ⟨p, hp, hap⟩
  · exact Or.inl h1
  · exact Or.inr ⟨p, hp, by rw [← h p hp]; exact hap⟩

theorem hardOK_congr (I : Inst) (a a' : Nat → Option Nat) (h : ∀ p, p < I.P → a p = a' p)
    (hs : G.HardOK I a) : G.HardOK I a' := by
  have h' : ∀ p, p < I.P → a' p = a p := fun p hp => (h p hp).symm
  have hat := attendees_congr I a a' h
  refine ⟨?_, ?_, ?_, ?_, ?_, ?_⟩
  · intro p hp c hc
    exact hs.range p hp c (by rw [h p hp]; exact hc)
  · intro c hc ht i hi hin
    rw [← h i hi]
    exact hs.instr c hc (takesPlace_congr I a' a h' c ht) i hi hin
  · intro c hc ht
    rw [← hat c]
    exact hs.min c hc (takesPlace_congr I a' a h' c ht)
  · intro c hc ht
    rw [← hat c]
    exact hs.max c hc (takesPlace_congr I a' a h' c ht)
  · intro p hp hch hno
    obtain ⟨ch, hm, he⟩ := hs.chosen p hp hch
      (fun ⟨c, hc, hin, ht⟩ => hno ⟨c, hc, hin, takesPlace_congr I a a' h c ht⟩)
    exact ⟨ch, hm, by rw [← h p hp]; exact he⟩
  · intro p hp hch c hc
    exact hs.only p hp hch c (by rw [h p hp]; exact hc)

theorem solIn_congr (I : Inst) (nd : Node) (a a' : Nat → Option Nat) (h : ∀ p, p < I.P → a p = a' p)
    (hs : SolIn I nd a) : SolIn I nd a' := by
  have hat := attendees_congr I a a' h
  refine ⟨hardOK_congr I a a' h hs.hard, ?_, ?_, ?_⟩
  · intro c hc p hp
    rw [← h p hp]; exact hs.canc c hc p hp
  · intro c hc
    rw [← hat c]; exact hs.enf c hc
  · intro cs hcs
    rw [← hat cs.1]; exact hs.shr cs hcs

theorem scoreOf_congr (I : Inst) (a a' : Nat → Option Nat) (h : ∀ p, p < I.P → a p = a' p) :
    G.scoreOf I a = G.scoreOf I a' := by
  unfold G.scoreOf
  apply sum_congr rfl
  intro p hp
  rw [h p (mem_range.1 hp)]

theorem solIn_root_iff (I : Inst) (a : Nat → Option Nat) : SolIn I rootNode a ↔ G.HardOK I a := by
  constructor
  · exact fun h => h.hard
  · intro h
    refine ⟨h, ?_, ?_, ?_⟩
    · intro c hc; simp [rootNode] at hc
    · intro c hc; simp [rootNode] at hc
    · intro cs hcs; simp [rootNode] at hcs

theorem scoreOf_le (I : Inst) (a : Nat → Option Nat) : G.scoreOf I a ≤ I.P * G.W := by
  have := sum_le_card_nsmul (range I.P) (G.scoreTerm I a) G.W (fun p _ => G.scoreTerm_le I a p)
  rw [card_range] at this
  exact this

theorem caobab_boundSpec (I : Inst) (R : RoomFns) (hI : InstOK2 I)
    (hmm : ∀ c, c < I.C → (I.course c).numMin ≤ (I.course c).numMax) (hnf : NoFreeable I) :
    letI := solverOf I R
    Eng3.BoundSpec (Nat → Option Nat) (G.scoreOf I) (SolIn I) G.ofList (NodeOK2 I) := by
  let S := solverOf I R
  refine ⟨?_, ?_, ?_, ?_⟩
  · intro n sc hn hr k hk
    have hrun := solverOf_res_eq_infeasible_iff.1 hr
    exact children_ok2 I R n hn _ sc hrun k hk
  · intro n al sc hn hr
    have hrun := solverOf_res_eq_feasible_iff.1 hr
    obtain ⟨a, hal, hs, hsc⟩ := feas_in_sol I R n hI hmm hn al sc hrun
    have hag : ∀ p, p < I.P → a p = G.ofList al p := by
      intro p hp; rw [hal, G.ofList_map I.P a p hp]
    exact ⟨solIn_congr I n a _ hag hs, by rw [hsc]; exact (scoreOf_congr I a _ hag).symm⟩
  · intro n sc hn hr a hs
    obtain ⟨mm, hsc, hg, hH, rfl, -⟩ := runNodeS_infeasible (solverOf_res_eq_infeasible_iff.1 hr)
    exact node_bound I n hI hmm hn hnf ((guards_eq_none_iff I n).2 hg) mm hsc hH a hs
  · intro n sc _ hr k hk a hs
    have hrun := solverOf_res_eq_infeasible_iff.1 hr
    exact node_mono I R n _ sc hrun k hk a hs

/-- the premise `Bounded` of the engine theorems C03/C09 holds for the caobab node solver on every
    well-formed instance of the class outside F1 — with or without a room list, for any room arithmetic. -/
theorem caobab_bounded (I : Inst) (R : RoomFns) (hI : InstOK2 I)
    (hmm : ∀ c, c < I.C → (I.course c).numMin ≤ (I.course c).numMax) (hnf : NoFreeable I) :
    letI := solverOf I R
    Eng3.Bounded rootNode := by
  let S := solverOf I R
  exact Eng3.bounded_of_bspec (caobab_boundSpec I R hI hmm hnf) rootNode (rootNode_ok2 I)

/-- the tree invariant under which all clauses of the node specification hold -/
def TreeOK (I : Inst) (nd : Node) : Prop := NodeOK2 I nd ∧ nd.enforced.Nodup

theorem treeOK_root (I : Inst) : TreeOK I rootNode := ⟨rootNode_ok2 I, by simp [rootNode]⟩

/-- the clause `cover` of `NodeSpec`, without rooms -/
theorem node_cover (I : Inst) (R : RoomFns) (nd : Node) (hrooms : I.rooms = none) (hI : InstOK2 I)
    (hmm : ∀ c, c < I.C → (I.course c).numMin ≤ (I.course c).numMax) (hn2 : NodeOK2 I nd) (hnf : NoFreeable I)
    (hpen : ∑ p ∈ range I.P, maxPen I p < G.W) (kids : List Node) (sc : Nat)
    (h : runNodeS I R nd = .ok (.infeasible kids sc)) (a : Nat → Option Nat) (hs : SolIn I nd a) :
    ∃ k ∈ kids, SolIn I k a := by
  obtain ⟨mm, hsc, hgp, hH, -, ⟨rooms, sets, hrs, -, -⟩ | ⟨-, pprob, bc, hcf, rfl⟩⟩ := runNodeS_infeasible h
  · rw [roomSizes_none hrooms] at hrs
    cases hrs
  · have hg := (guards_eq_none_iff I nd).2 hgp
    rcases checkFeas_eq_ok hcf with ⟨p, hw, -⟩ | ⟨-, rfl, -, -, hbf⟩
    · -- a participant in a course they did not choose: the node has no solution at all
      exfalso
      obtain ⟨hp, hact, -, hany⟩ := wrongOf_some hw
      rw [skipx_get I nd p hp] at hact
      refine wrong_empty I nd hI hmm hn2 hnf hpen hg mm hsc hH p hp hact ?_ a hs
      rintro c hc ⟨ch, hm, he⟩
      rw [asgOf_eq I nd mm hp, hc, List.any_eq_false] at hany
      exact hany ch hm (by simp [he])
    · -- a violated minimum: enforce or cancel the proposed course
      obtain ⟨c, hc, rfl⟩ := hbf rfl
      rcases cover_min I nd a hs c (mem_violOf.1 hc).1 with h1 | ⟨hfx, h2⟩
      · exact ⟨_, mem_feasKids.2 (.inl ⟨rfl, rfl⟩), h1⟩
      · exact ⟨_, mem_feasKids.2 (.inr ⟨hfx, rfl⟩), h2⟩

theorem caobab_nodeSpec (I : Inst) (R : RoomFns) (hrooms : I.rooms = none) (hI : InstOK2 I)
    (hmm : ∀ c, c < I.C → (I.course c).numMin ≤ (I.course c).numMax) (hnf : NoFreeable I)
    (hpen : ∑ p ∈ range I.P, maxPen I p < G.W) (B : Nat)
    (hB : ∀ rooms, I.roomSizes = some rooms → ∀ ci, ci < I.C → ∀ k, ssOf I R ci (rooms.getD k 0) < B) :
    letI := solverOf I R
    Eng3.NodeSpecOn (Nat → Option Nat) (G.scoreOf I) (SolIn I) G.ofList (mu I B) (TreeOK I) := by
  let S := solverOf I R
  have hb := caobab_boundSpec I R hI hmm hnf
  refine ⟨⟨?_, fun n al sc hn => hb.feasIn n al sc hn.1, fun n sc hn => hb.bound n sc hn.1,
    fun n sc hn => hb.mono n sc hn.1⟩, ?_, ?_, ?_, ?_, ?_⟩
  · intro n sc hn hr k hk
    have hrun := solverOf_res_eq_infeasible_iff.1 hr
    exact ⟨children_ok2 I R n hn.1 _ sc hrun k hk, children_nodup I R n hn.2 _ sc hrun k hk⟩
  · intro n al sc hn hr a hs
    exact feas_optimal I R n hI hmm hn.1 hnf al sc (solverOf_res_eq_feasible_iff.1 hr) a hs
  · intro n hn hr a
    exact node_none I n hI.toInstOK hn.1 hn.2 hnf (runNodeS_noSol (solverOf_res_eq_noSol_iff.1 hr)) a
  · intro n sc hn hr a hs
    exact node_cover I R n hrooms hI hmm hn.1 hnf hpen _ sc (solverOf_res_eq_infeasible_iff.1 hr) a hs
  · intro n sc _ hr k hk
    have hrun := solverOf_res_eq_infeasible_iff.1 hr
    exact node_prog I R n B hB _ sc hrun k hk
  · exact fun n hn => solverOf_res_ne_panic hI.toInstOK hmm hn.1

theorem C02_partial (I : Inst) (R : RoomFns) (hrooms : I.rooms = none) (hI : InstOK2 I)
    (hmm : ∀ c, c < I.C → (I.course c).numMin ≤ (I.course c).numMax) (hnf : NoFreeable I)
    (hpen : ∑ p ∈ range I.P, maxPen I p < G.W) (top T : Nat) (hT : 0 < T)
    (htop : ∀ a, G.HardOK I a → G.scoreOf I a ≤ top) :
    letI := solverOf I R
    ∀ c : Eng3.Cfg Node (List (Option Nat)), Eng3.Reach rootNode top T c → Eng3.AllDone c →
      (c.best = none → ∀ a, ¬ G.HardOK I a) ∧
      (∀ al, c.best = some al → ∃ a : Nat → Option Nat, al = (List.range I.P).map a ∧ G.HardOK I a ∧
        c.bestScore = G.scoreOf I a ∧ ∀ a', G.HardOK I a' → G.scoreOf I a' ≤ c.bestScore) := by
  let S := solverOf I R
  intro c hr hd
  obtain ⟨B, hB⟩ := exists_B I R
  have hspec := caobab_nodeSpec I R hrooms hI hmm hnf hpen B hB
  obtain ⟨h1, h2⟩ := Eng3.bab_optimal_on hspec (root := rootNode) (treeOK_root I) hT
    (fun a ha => htop a ha.hard) hr hd
  refine ⟨fun hn a ha => h1 hn a ((solIn_root_iff I a).2 ha), ?_⟩
  intro al hal
  obtain ⟨_, _, hopt⟩ := h2 al hal
  obtain ⟨a, hal', hhard, hsc⟩ := C01_C08_engine I R hI top T c hr al hal
  exact ⟨a, hal', hhard, hsc, fun a' ha' => hopt a' ((solIn_root_iff I a').2 ha')⟩

#print axioms caobab_bounded
#print axioms C02_partial
end N2
