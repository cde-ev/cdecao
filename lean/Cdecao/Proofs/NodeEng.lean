import Cdecao.Proofs.NodeTotal
import Cdecao.Engine.SolInv
import Cdecao.Engine.BabOpt
/-! The node model as `Solver` instance of the engine model, and what holds of the whole parallel search
    because it holds of every node: every node of the tree satisfies `NodeOK2`; whatever the engine holds
    as incumbent, under any thread count and schedule, is the feasible verdict of such a node, so it
    satisfies the hard constraints (C01) and carries its documented score (C08); no node of the tree of a
    well-formed instance makes the node solver panic (C10). -/
namespace N2
open H2

/-- the caobab node solver as the engine's `Solver` (a model panic is an engine panic) -/
@[reducible] def solverOf (I : Inst) (R : RoomFns) : Eng3.Solver Node (List (Option Nat)) where
  res nd := match runNodeS I R nd with
    | .ok .noSol => .noSol
    | .ok (.infeasible _ sc) => .infeasible sc
    | .ok (.feasible al sc) => .feasible al sc
    | .error _ => .panic
  kids nd := match runNodeS I R nd with
    | .ok (.infeasible kids _) => kids
    | _ => []

def rootNode : Node := ⟨[], [], []⟩

section
variable {I : Inst} {R : RoomFns} {nd k : Node}

theorem solverOf_res_eq_feasible_iff {al : List (Option Nat)} {sc : Nat} :
    (solverOf I R).res nd = .feasible al sc ↔ runNodeS I R nd = .ok (.feasible al sc) := by
  simp only [Eng3.Solver.res]
  rcases runNodeS I R nd with e | (_ | _ | _) <;> simp

theorem solverOf_res_eq_infeasible_iff {sc : Nat} :
    (solverOf I R).res nd = .infeasible sc ↔
      runNodeS I R nd = .ok (.infeasible ((solverOf I R).kids nd) sc) := by
  simp only [Eng3.Solver.res, Eng3.Solver.kids]
  rcases runNodeS I R nd with e | (_ | _ | _) <;> simp

theorem solverOf_infeasible {kids : List Node} {sc : Nat} (h : runNodeS I R nd = .ok (.infeasible kids sc)) :
    (solverOf I R).res nd = .infeasible sc ∧ (solverOf I R).kids nd = kids := by
  simp only [Eng3.Solver.res, Eng3.Solver.kids, h, and_self]

theorem solverOf_res_eq_noSol_iff :
    (solverOf I R).res nd = .noSol ↔ runNodeS I R nd = .ok .noSol := by
  simp only [Eng3.Solver.res]
  rcases runNodeS I R nd with e | (_ | _ | _) <;> simp

theorem solverOf_res_eq_panic_iff :
    (solverOf I R).res nd = .panic ↔ ∃ e, runNodeS I R nd = .error e := by
  simp only [Eng3.Solver.res]
  rcases runNodeS I R nd with e | (_ | _ | _) <;> simp

theorem mem_pushed (hk : k ∈ @Eng3.pushed Node _ (solverOf I R) nd) :
    ∃ kids sc, runNodeS I R nd = .ok (.infeasible kids sc) ∧ k ∈ kids :=
  let ⟨sc, hr, hk⟩ := (@Eng3.mem_pushed Node _ (solverOf I R) k nd).1 hk
  ⟨_, sc, solverOf_res_eq_infeasible_iff.1 hr, hk⟩

theorem pushed_of_infeasible {kids : List Node} {sc : Nat}
    (h : runNodeS I R nd = .ok (.infeasible kids sc)) : @Eng3.pushed Node _ (solverOf I R) nd = kids :=
  (@Eng3.pushed_of_infeasible Node _ (solverOf I R) _ _ (solverOf_infeasible h).1).trans (solverOf_infeasible h).2

theorem pushed_of_noSol (h : runNodeS I R nd = .ok .noSol) : @Eng3.pushed Node _ (solverOf I R) nd = [] := by
  unfold Eng3.pushed
  rw [solverOf_res_eq_noSol_iff.2 h]

end
theorem pushed_of_feasible (I : Inst) (R : RoomFns) (nd : Node) (al : List (Option Nat)) (sc : Nat)
    (h : runNodeS I R nd = .ok (.feasible al sc)) :
    letI := solverOf I R
    Eng3.pushed nd = [] := by
  unfold Eng3.pushed
  rw [solverOf_res_eq_feasible_iff.2 h]

theorem pushed_of_error (I : Inst) (R : RoomFns) (nd : Node) (e : String)
    (h : runNodeS I R nd = .error e) :
    letI := solverOf I R
    Eng3.pushed nd = [] := by
  unfold Eng3.pushed
  rw [solverOf_res_eq_panic_iff.2 ⟨e, h⟩]

theorem desc_inv {I : Inst} {R : RoomFns} {Inv : Node → Prop}
    (hstep : ∀ t, Inv t → ∀ kids sc, runNodeS I R t = .ok (.infeasible kids sc) → ∀ k ∈ kids, Inv k)
    {f t : Node} (hd : @Eng3.Desc Node _ (solverOf I R) f t) : Inv t → Inv f :=
  @Eng3.Desc.inv _ _ (solverOf I R) _ (fun t ht k hk =>
    let ⟨kids, sc, hrun, hmem⟩ := mem_pushed hk
    hstep t ht kids sc hrun k hmem) _ _ hd

theorem desc_ok (I : Inst) (R : RoomFns) :
    letI := solverOf I R
    ∀ f t : Node, Eng3.Desc f t → NodeOK I t → NodeOK I f :=
  fun _ _ => desc_inv (children_ok I R)

theorem rootNode_ok2 (I : Inst) : NodeOK2 I rootNode :=
  ⟨fun _ h => (nomatch h), fun _ h => (nomatch h), fun _ h => (nomatch h)⟩

theorem tree_ok2 {I : Inst} {R : RoomFns} {f : Node}
    (hd : @Eng3.Desc Node _ (solverOf I R) f rootNode) : NodeOK2 I f :=
  desc_inv (children_ok2 I R) hd (rootNode_ok2 I)

theorem incumbent_node {I : Inst} {R : RoomFns} {top T : Nat} {c : Eng3.Cfg Node (List (Option Nat))}
    {al : List (Option Nat)} (hr : @Eng3.Reach Node _ (solverOf I R) rootNode top T c)
    (hal : c.best = some al) :
    ∃ f, @Eng3.Desc Node _ (solverOf I R) f rootNode ∧ NodeOK2 I f ∧
      runNodeS I R f = .ok (.feasible al c.bestScore) := by
  let S := solverOf I R
  rcases (Eng3.reach_solinv hr).inc with h | ⟨f, sol, hd, hres, hbest⟩
  · rw [h] at hal; contradiction
  · obtain rfl : sol = al := Option.some.inj (hbest.symm.trans hal)
    exact ⟨f, hd, tree_ok2 hd, solverOf_res_eq_feasible_iff.1 hres⟩

theorem C01_engine (I : Inst) (R : RoomFns) (hI : InstOK I) (top T : Nat) :
    letI := solverOf I R
    ∀ c : Eng3.Cfg Node (List (Option Nat)),
      Eng3.Reach rootNode top T c → ∀ al, c.best = some al →
      al.length = I.P ∧ ∃ a : Nat → Option Nat, al = (List.range I.P).map a ∧ G.HardOK I a := by
  intro c hr al hal
  obtain ⟨f, -, hok, hrun⟩ := incumbent_node hr hal
  obtain ⟨mm, rfl, h2⟩ := C01_node I R f hI hok.nodeOK al _ hrun
  exact ⟨by simp, _, rfl, h2⟩

#print axioms C01_engine

theorem C01_C08_engine (I : Inst) (R : RoomFns) (hI : InstOK2 I) (top T : Nat) :
    letI := solverOf I R
    ∀ c : Eng3.Cfg Node (List (Option Nat)),
      Eng3.Reach rootNode top T c → ∀ al, c.best = some al →
      ∃ a : Nat → Option Nat, al = (List.range I.P).map a ∧ G.HardOK I a ∧ c.bestScore = G.scoreOf I a := by
  intro c hr al hal
  obtain ⟨f, -, hok, hrun⟩ := incumbent_node hr hal
  exact node_feasible_spec I R f hI hok.nodeOK al _ hrun

#print axioms C01_C08_engine

theorem solverOf_res_ne_panic {I : Inst} {R : RoomFns} (hI : InstOK I)
    (hmm : ∀ c, c < I.C → (I.course c).numMin ≤ (I.course c).numMax) {n : Node} (hn : NodeOK2 I n) :
    (solverOf I R).res n ≠ .panic := fun hp => by
  obtain ⟨e, he⟩ := solverOf_res_eq_panic_iff.1 hp
  obtain ⟨r, hr⟩ := node_total I R n hI hmm hn
  rw [he] at hr
  cases hr

theorem tree_no_panic (I : Inst) (R : RoomFns) (hI : InstOK I)
    (hmm : ∀ c, c < I.C → (I.course c).numMin ≤ (I.course c).numMax) :
    letI := solverOf I R
    ∀ f : Node, Eng3.Desc f rootNode → Eng3.Solver.res f ≠ (Eng3.Res.panic : Eng3.Res (List (Option Nat))) :=
  fun _ hd => solverOf_res_ne_panic hI hmm (tree_ok2 hd)

#print axioms tree_no_panic
end N2
