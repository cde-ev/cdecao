import Cdecao.Proofs.SortDesc
/-! C06: the room test of `check_room_feasibility` (ascending stable sort of the courses by
    effective size, walked from the back against the descending room list) is the rank-wise
    comparison of the two descending lists. Core only. -/
namespace RG

def leKey (a b : Nat × Nat) : Bool := decide (a.2 ≤ b.2)

/-- sizes in the order the code walks them: ascending stable sort by size, reversed -/
def walked (pairs : List (Nat × Nat)) : List Nat := ((pairs.mergeSort leKey).map (·.2)).reverse

/-- specification: the sizes in descending order -/
def sortedDesc (szs : List Nat) : List Nat := szs.mergeSort (fun a b => decide (b ≤ a))

theorem walked_eq (pairs : List (Nat × Nat)) : walked pairs = sortedDesc (pairs.map (·.2)) := by
  refine (RMP.mergeSort_eq_of ?_ ?_).symm
  · rw [walked, RMP.GE, List.pairwise_reverse, List.pairwise_map]
    exact List.pairwise_mergeSort_le (·.2) pairs
  · exact (List.reverse_perm _).trans ((List.mergeSort_perm pairs leKey).map _)

/-- the code's test: no position at which the walked size exceeds the room -/
def codeOk (pairs : List (Nat × Nat)) (rooms : List Nat) : Bool :=
  ((walked pairs).zip rooms).all (fun (s, r) => decide (s ≤ r))

theorem codeOk_iff (pairs : List (Nat × Nat)) (rooms : List Nat) :
    codeOk pairs rooms = true ↔
      ∀ s r, (s, r) ∈ (sortedDesc (pairs.map (·.2))).zip rooms → s ≤ r := by
  unfold codeOk
  rw [walked_eq]
  simp only [List.all_eq_true, decide_eq_true_eq, Prod.forall]

#print axioms codeOk_iff
end RG
