import Mathlib.Algebra.Order.BigOperators.Group.Finset
import Cdecao.Proofs.NodeCols
import Cdecao.Proofs.NodeInv
/-! The children of a node. Every child is a room child or the enforce / cancel child of a free course
    (`kid_cases`); hence the node invariants `NodeOK`, `NodeOK2` are inherited, and every child is strictly
    smaller in the measure `mu`, so the search tree of every instance is finite (`NodeSpec.prog`). -/
open Finset
namespace N2
open H2

/-- node invariant: fixed courses are never cancelled -/
def NodeOK (I : Inst) (nd : Node) : Prop := ∀ c, c ∈ nd.cancelled → (I.course c).fixed = false

/-- the stronger node invariant needed for totality (C10): indices in range, cancelled courses are
    neither fixed nor enforced, shrink sizes are at least the minimum (the `max(.., course.num_min)` of `shrink_size`, repair of
    finding F9) -/
structure NodeOK2 (I : Inst) (nd : Node) : Prop where
  canc : ∀ c ∈ nd.cancelled, c < I.C ∧ (I.course c).fixed = false ∧ c ∉ nd.enforced
  enf : ∀ c ∈ nd.enforced, c < I.C
  shr : ∀ cs ∈ nd.shrinked, cs.1 < I.C ∧ (I.course cs.1).numMin ≤ cs.2

theorem NodeOK2.nodeOK {I : Inst} {nd : Node} (h : NodeOK2 I nd) : NodeOK I nd :=
  fun c hc => (h.canc c hc).2.1

theorem createRCS_cancel (I : Inst) (R : RoomFns) (nd : Node) (toSize : Nat) (allReq : Bool) :
    ∀ (l : List Nat) (sh : List (Nat × Nat)) (ca : List Nat) (r : RCS),
      createRCS I R nd toSize allReq l sh ca = some r →
      (∀ c ∈ ca, (I.course c).fixed = false) → ∀ c ∈ r.cancel, (I.course c).fixed = false :=
  fun _ _ _ _ h hca =>
    (createRCS_inv (PS := fun _ => True) (fun _ _ _ => trivial) (fun _ _ hn => hn.2.2) h (fun _ _ => trivial) hca).2

theorem createRCS_spec (I : Inst) (R : RoomFns) (nd : Node) (toSize : Nat) (allReq : Bool) :
    ∀ (l : List Nat) (sh : List (Nat × Nat)) (ca : List Nat) (r : RCS),
      createRCS I R nd toSize allReq l sh ca = some r → (∀ c ∈ l, c < I.C) →
      (∀ c ∈ ca, c < I.C ∧ (I.course c).fixed = false ∧ c ∉ nd.enforced) →
      (∀ cs ∈ sh, cs.1 < I.C ∧ (I.course cs.1).numMin ≤ cs.2) →
      (∀ c ∈ r.cancel, c < I.C ∧ (I.course c).fixed = false ∧ c ∉ nd.enforced) ∧
      (∀ cs ∈ r.shrink, cs.1 < I.C ∧ (I.course cs.1).numMin ≤ cs.2) := by
  intro l sh ca r h hl hca hsh
  exact (createRCS_inv (fun _ hm hn => ⟨hl _ hm, hn.min_le⟩) (fun _ hm hn => ⟨hl _ hm, hn.2.2, hn.2.1⟩)
    h hsh hca).symm

theorem checkRoom_spec (I : Inst) (R : RoomFns) (nd : Node) (a : Nat → Option Nat) (rooms : List Nat)
    (b : Bool) (sets : List RCS) (h : checkRoom I R nd a rooms = .ok (b, sets)) :
    ∀ r ∈ sets, (∀ c ∈ r.cancel, c < I.C ∧ (I.course c).fixed = false ∧ c ∉ nd.enforced) ∧
      (∀ cs ∈ r.shrink, cs.1 < I.C ∧ (I.course cs.1).numMin ≤ cs.2) := by
  intro r hr
  obtain ⟨j, h1, h2, -⟩ := checkRoom_sets h r hr
  exact ⟨fun c hc => ⟨(h2 c hc).1, (h2 c hc).2.2.2, (h2 c hc).2.2.1⟩,
    fun cs hcs => ⟨(h1 cs hcs).1, (h1 cs hcs).2.min_le⟩⟩

#print axioms checkRoom_spec

theorem checkFeas_bc (I : Inst) (nd : Node) (a : Nat → Option Nat) (isI : Nat → Bool) (b pprob : Bool) (c : Nat)
    (h : checkFeas I nd a isI = .ok (b, pprob, some c)) :
    c < I.C ∧ c ∉ nd.cancelled ∧ c ∉ nd.enforced := by
  rcases checkFeas_eq_ok h with ⟨_, -, -, -, hbc⟩ | ⟨-, -, henf, hbt, hbf⟩
  · exact hbc c rfl
  · cases b with
    | true => exact nomatch (hbt rfl).1
    | false =>
      obtain ⟨c', hc', he⟩ := hbf rfl
      cases he
      exact ⟨(mem_violOf.1 hc').1, (mem_violOf.1 hc').2.1, henf c hc'⟩

theorem kid_cases {I : Inst} {R : RoomFns} {nd : Node} {kids : List Node} {sc : Nat}
    (h : runNodeS I R nd = .ok (.infeasible kids sc)) : ∀ k ∈ kids,
    (∃ rooms j r, I.roomSizes = some rooms ∧ k = roomKid nd r ∧
      (∀ cs ∈ r.shrink, cs.1 < I.C ∧ NewShrink I R nd (rooms.getD j 0) cs) ∧
      (∀ c ∈ r.cancel, c < I.C ∧ NewCancel I nd c) ∧ (r.shrink ≠ [] ∨ r.cancel ≠ [])) ∨
    (∃ c, c < I.C ∧ c ∉ nd.cancelled ∧ c ∉ nd.enforced ∧
      (k = { nd with enforced := nd.enforced ++ [c] } ∨
       (I.course c).fixed = false ∧ k = { nd with cancelled := nd.cancelled ++ [c] })) := by
  obtain ⟨mm, hsc, -, -, -, ⟨rooms, sets, hr, hcr, rfl⟩ | ⟨-, pprob, bc, hf, rfl⟩⟩ := runNodeS_infeasible h
  · intro k hk
    obtain ⟨r, hr', rfl⟩ := List.mem_map.1 hk
    obtain ⟨j, h1, h2, h3⟩ := checkRoom_sets hcr r hr'
    exact .inl ⟨rooms, j, r, hr, rfl, h1, h2, h3⟩
  · intro k hk
    cases bc with
    | none => cases hk
    | some c =>
      obtain ⟨hcC, hcc, hce⟩ := checkFeas_bc I nd _ _ _ _ c hf
      exact .inr ⟨c, hcC, hcc, hce, (mem_feasKids.1 hk).imp (·.2) id⟩

theorem children_ok (I : Inst) (R : RoomFns) (nd : Node) (hn : NodeOK I nd) (kids : List Node) (sc : Nat)
    (h : runNodeS I R nd = .ok (.infeasible kids sc)) : ∀ k ∈ kids, NodeOK I k := by
  intro k hk c hc
  rcases kid_cases h k hk with ⟨_, _, r, -, rfl, -, h2, -⟩ | ⟨c', -, -, -, rfl | ⟨hfx, rfl⟩⟩
  · exact (List.mem_append.1 hc).elim (hn c) fun hc => (h2 c hc).2.2.2
  · exact hn c hc
  · exact List.forall_mem_append.2 ⟨hn, List.forall_mem_singleton.2 hfx⟩ c hc

#print axioms children_ok

theorem children_ok2 (I : Inst) (R : RoomFns) (nd : Node) (hn : NodeOK2 I nd) (kids : List Node) (sc : Nat)
    (h : runNodeS I R nd = .ok (.infeasible kids sc)) : ∀ k ∈ kids, NodeOK2 I k := by
  intro k hk
  rcases kid_cases h k hk with ⟨_, _, r, -, rfl, h1, h2, -⟩ | ⟨c', hc', hcc, hce, rfl | ⟨hfx, rfl⟩⟩
  · refine ⟨fun c hc => ?_, hn.enf, fun cs hcs => ?_⟩
    · exact (List.mem_append.1 hc).elim (hn.canc c) fun hc => ⟨(h2 c hc).1, (h2 c hc).2.2.2, (h2 c hc).2.2.1⟩
    · exact (List.mem_append.1 hcs).elim (hn.shr cs) fun hcs => ⟨(h1 cs hcs).1, (h1 cs hcs).2.min_le⟩
  · refine ⟨fun c hc => ⟨(hn.canc c hc).1, (hn.canc c hc).2.1, fun he => ?_⟩,
      List.forall_mem_append.2 ⟨hn.enf, List.forall_mem_singleton.2 hc'⟩, hn.shr⟩
    rcases List.mem_append.1 he with he | he
    · exact (hn.canc c hc).2.2 he
    · cases List.mem_singleton.1 he; exact hcc hc
  · exact ⟨List.forall_mem_append.2 ⟨hn.canc, List.forall_mem_singleton.2 ⟨hc', hfx, hce⟩⟩, hn.enf, hn.shr⟩

#print axioms children_ok2

theorem children_nodup (I : Inst) (R : RoomFns) (nd : Node) (hnd : nd.enforced.Nodup) (kids : List Node) (sc : Nat)
    (h : runNodeS I R nd = .ok (.infeasible kids sc)) : ∀ k ∈ kids, k.enforced.Nodup := by
  intro k hk
  rcases kid_cases h k hk with ⟨_, _, r, -, rfl, -⟩ | ⟨c, -, -, hce, rfl | ⟨-, rfl⟩⟩
  · exact hnd
  · exact List.nodup_append.2 ⟨hnd, List.nodup_singleton c, fun x hx y hy he =>
      hce (List.mem_singleton.1 hy ▸ he ▸ hx)⟩
  · exact hnd

def isFree (nd : Node) (c : Nat) : Bool := !nd.cancelled.contains c && !nd.enforced.contains c
def freeCnt (I : Inst) (nd : Node) : Nat := #((range I.C).filter (fun c => isFree nd c = true))
def shrOf (B : Nat) (sh : List (Nat × Nat)) (c : Nat) : Nat :=
  (sh.filter (fun cs => cs.1 == c)).foldl (fun acc cs => min acc cs.2) B
def shrSum (I : Inst) (B : Nat) (nd : Node) : Nat := ∑ c ∈ range I.C, shrOf B nd.shrinked c
def mu (I : Inst) (B : Nat) (nd : Node) : Nat := freeCnt I nd + shrSum I B nd

theorem shrOf_append_le (B : Nat) (sh add : List (Nat × Nat)) (c : Nat) : shrOf B (sh ++ add) c ≤ shrOf B sh c := by
  unfold shrOf
  rw [List.filter_append, List.foldl_append]
  exact foldl_min_le _ _

theorem shrOf_append_lt (B : Nat) (sh add : List (Nat × Nat)) (ci ss : Nat) (hm : (ci, ss) ∈ add) (hB : ss < B)
    (hnew : ∀ cs ∈ sh, cs.1 = ci → ss < cs.2) : shrOf B (sh ++ add) ci < shrOf B sh ci := by
  have h1 : shrOf B (sh ++ add) ci ≤ ss := by
    unfold shrOf
    exact foldl_min_le_mem _ _ (ci, ss) (by simp [List.mem_filter, hm])
  have h2 : ss < shrOf B sh ci := by
    unfold shrOf
    refine (le_foldl_min_iff _ (ss + 1) B).2 ⟨hB, fun x hx => ?_⟩
    simp only [List.mem_filter, beq_iff_eq] at hx
    exact hnew x hx.1 hx.2
  omega

theorem isFree_iff {nd : Node} {c : Nat} : isFree nd c = true ↔ c ∉ nd.cancelled ∧ c ∉ nd.enforced := by
  simp only [isFree, Bool.and_eq_true, Bool.not_eq_true', List.contains_eq_mem, decide_eq_false_iff_not]

theorem freeCnt_le (I : Inst) {nd k : Node} (h : ∀ c, isFree k c = true → isFree nd c = true) :
    freeCnt I k ≤ freeCnt I nd :=
  card_le_card fun c hc => mem_filter.2 ⟨(mem_filter.1 hc).1, h c (mem_filter.1 hc).2⟩

theorem freeCnt_lt (I : Inst) {nd k : Node} (h : ∀ c, isFree k c = true → isFree nd c = true) {c : Nat}
    (hc : c < I.C) (h1 : isFree nd c = true) (h2 : ¬ isFree k c = true) : freeCnt I k < freeCnt I nd :=
  card_lt_card <| (ssubset_iff_of_subset fun c hc =>
      mem_filter.2 ⟨(mem_filter.1 hc).1, h c (mem_filter.1 hc).2⟩).2
    ⟨c, mem_filter.2 ⟨mem_range.2 hc, h1⟩, fun hm => h2 (mem_filter.1 hm).2⟩

/-- a room constraint set makes progress: a new shrink entry lowers the shrink sum, a new cancellation the
    number of free courses, and neither measure goes up -/
theorem mu_room (I : Inst) (B : Nat) (nd : Node) (sh : List (Nat × Nat)) (ca : List Nat)
    (hsh : ∀ cs ∈ sh, cs.1 < I.C ∧ cs.2 < B ∧ ∀ cs' ∈ nd.shrinked, cs'.1 = cs.1 → cs.2 < cs'.2)
    (hca : ∀ c ∈ ca, c < I.C ∧ isFree nd c = true) (hne : sh ≠ [] ∨ ca ≠ []) :
    mu I B { nd with shrinked := nd.shrinked ++ sh, cancelled := nd.cancelled ++ ca } < mu I B nd := by
  have hfree : ∀ c, isFree { nd with shrinked := nd.shrinked ++ sh, cancelled := nd.cancelled ++ ca } c = true →
      isFree nd c = true := fun c h => by
    rw [isFree_iff] at h ⊢
    exact ⟨fun hm => h.1 (List.mem_append_left _ hm), h.2⟩
  have hshr : ∀ c ∈ range I.C, shrOf B (nd.shrinked ++ sh) c ≤ shrOf B nd.shrinked c :=
    fun c _ => shrOf_append_le B _ _ c
  unfold mu shrSum
  rcases hne with hne | hne
  · obtain ⟨⟨ci, ss⟩, hm⟩ := List.exists_mem_of_ne_nil _ hne
    obtain ⟨h1, h2, h3⟩ := hsh _ hm
    exact Nat.add_lt_add_of_le_of_lt (freeCnt_le I hfree)
      (sum_lt_sum hshr ⟨ci, mem_range.2 h1, shrOf_append_lt B _ _ ci ss hm h2 h3⟩)
  · obtain ⟨c, hm⟩ := List.exists_mem_of_ne_nil _ hne
    exact Nat.add_lt_add_of_lt_of_le (freeCnt_lt I hfree (hca c hm).1 (hca c hm).2
      fun h => (isFree_iff.1 h).1 (List.mem_append_right _ hm)) (sum_le_sum hshr)

theorem mu_cancel (I : Inst) (B : Nat) (nd : Node) (c : Nat) (hc : c < I.C) (hf : isFree nd c = true) :
    mu I B { nd with cancelled := nd.cancelled ++ [c] } < mu I B nd := by
  have := mu_room I B nd [] [c] (fun _ h => nomatch h)
    (fun c' h => by cases List.mem_singleton.1 h; exact ⟨hc, hf⟩) (.inr (List.cons_ne_nil _ _))
  rwa [List.append_nil] at this

theorem mu_enforce (I : Inst) (B : Nat) (nd : Node) (c : Nat) (hc : c < I.C) (hf : isFree nd c = true) :
    mu I B { nd with enforced := nd.enforced ++ [c] } < mu I B nd := by
  have : freeCnt I { nd with enforced := nd.enforced ++ [c] } < freeCnt I nd :=
    freeCnt_lt I (fun c h => by
        rw [isFree_iff] at h ⊢
        exact ⟨h.1, fun hm => h.2 (List.mem_append_left _ hm)⟩) hc hf
      fun h => (isFree_iff.1 h).2 (List.mem_append_right _ (List.mem_singleton.2 rfl))
  exact Nat.add_lt_add_right this _

def ShrNew (I : Inst) (B : Nat) (nd : Node) (cs : Nat × Nat) : Prop :=
  cs.1 < I.C ∧ cs.2 < B ∧ ∀ cs' ∈ nd.shrinked, cs'.1 = cs.1 → cs.2 < cs'.2
def CanNew (I : Inst) (nd : Node) (c : Nat) : Prop := c < I.C ∧ isFree nd c = true

theorem createRCS_prog (I : Inst) (R : RoomFns) (nd : Node) (toSize : Nat) (allReq : Bool) (B : Nat)
    (hB : ∀ ci, ci < I.C → ssOf I R ci toSize < B) :
    ∀ (l : List Nat) (sh : List (Nat × Nat)) (ca : List Nat) (r : RCS),
      createRCS I R nd toSize allReq l sh ca = some r → (∀ c ∈ l, c < I.C) →
      (∀ cs ∈ sh, ShrNew I B nd cs) → (∀ c ∈ ca, CanNew I nd c) →
      (∀ cs ∈ r.shrink, ShrNew I B nd cs) ∧ (∀ c ∈ r.cancel, CanNew I nd c) := by
  intro l sh ca r h hl hsh hca
  exact createRCS_inv (fun _ hm hn => ⟨hl _ hm, hn.2.1 ▸ hB _ (hl _ hm), hn.2.2⟩)
    (fun _ hm hn => ⟨hl _ hm, isFree_iff.2 ⟨hn.1, hn.2.1⟩⟩) h hsh hca

/-- `NodeSpec.prog` for the node model: every child is strictly smaller in the measure `mu` -/
theorem node_prog (I : Inst) (R : RoomFns) (nd : Node) (B : Nat)
    (hB : ∀ rooms, I.roomSizes = some rooms → ∀ ci, ci < I.C → ∀ k, ssOf I R ci (rooms.getD k 0) < B)
    (kids : List Node) (sc : Nat) (h : runNodeS I R nd = .ok (.infeasible kids sc)) :
    ∀ k ∈ kids, mu I B k < mu I B nd := by
  intro k hk
  rcases kid_cases h k hk with ⟨rooms, j, r, hr, rfl, h1, h2, h3⟩ | ⟨c, hc, hcc, hce, rfl | ⟨-, rfl⟩⟩
  · refine mu_room I B nd r.shrink r.cancel (fun cs hcs => ?_) (fun c hc => ?_) h3
    · obtain ⟨hC, -, he, hlt⟩ := h1 cs hcs
      exact ⟨hC, by rw [he]; exact hB rooms hr _ hC j, hlt⟩
    · obtain ⟨hC, hcc, hce, -⟩ := h2 c hc
      exact ⟨hC, isFree_iff.2 ⟨hcc, hce⟩⟩
  · exact mu_enforce I B nd c hc (isFree_iff.2 ⟨hcc, hce⟩)
  · exact mu_cancel I B nd c hc (isFree_iff.2 ⟨hcc, hce⟩)

#print axioms node_prog

theorem exists_B (I : Inst) (R : RoomFns) : ∃ B, ∀ rooms, I.roomSizes = some rooms →
    ∀ ci, ci < I.C → ∀ k, ssOf I R ci (rooms.getD k 0) < B := by
  cases hr : I.roomSizes with
  | none => exact ⟨0, fun rooms h => nomatch h⟩
  | some rooms =>
    -- one more than the largest size over the finitely many courses and room sizes
    refine ⟨1 + (range I.C).sup fun ci => (0 :: rooms).toFinset.sup fun r => ssOf I R ci r, ?_⟩
    rintro _ ⟨⟩ ci hci k
    have hmem : rooms.getD k 0 ∈ (0 :: rooms).toFinset := by
      rw [List.mem_toFinset, List.getD_eq_getElem?_getD]
      cases hk : rooms[k]? with
      | none => exact List.mem_cons_self
      | some v => exact List.mem_cons_of_mem _ (List.mem_of_getElem? hk)
    exact Nat.lt_one_add_iff.2 ((le_sup (f := fun r => ssOf I R ci r) hmem).trans
      (le_sup (f := fun ci => (0 :: rooms).toFinset.sup fun r => ssOf I R ci r) (mem_range.2 hci)))

#print axioms exists_B
end N2
