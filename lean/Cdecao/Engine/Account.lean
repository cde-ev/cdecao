import Cdecao.Engine.Core
import Cdecao.Engine.Term
import Cdecao.Engine.Final
/-! Accounting for the engine. A ghost history, computed alongside the transition system (`step?` is
not touched), records where every generated subproblem went: as multisets (`List.Perm`), generated =
solved + bounded + failed + in flight + queued in every reachable state. The same history bounds the
number of subproblems a finite tree generates. Independently of it, the potential of Term.lean summed
over a run (`Run`), with the sleepers a `notify_all` wakes charged to the thread that stops, bounds the
work of whole runs. Core only (no Mathlib). -/
namespace Eng3
variable {ν σ : Type} [Solver ν σ]

structure Ghost (ν : Type) where
  /-- the root, then every child in the order it is pushed -/
  gen : List ν
  /-- nodes whose result has been applied (`acquire t` with `pcs[t] = want (some n)`, no panic),
      in the order of application -/
  solved : List ν := []
  /-- nodes popped by `top t k` and discarded by bounding, in that order -/
  bounded : List ν := []
  /-- nodes whose solver panicked, in the order in which the panics are registered -/
  failed : List ν := []

def Ghost.init (root : ν) : Ghost ν := { gen := [root] }

def ghostUpd (c : Cfg ν σ) (g : Ghost ν) : Ev → Ghost ν
  | .acquire t =>
    match c.lock, c.pcs[t]? with
    | none, some (.want (some n)) =>
      match Solver.res n with
      | .panic => { g with failed := g.failed ++ [n] }
      | .noSol => { g with solved := g.solved ++ [n] }
      | .feasible _ _ => { g with solved := g.solved ++ [n] }
      | .infeasible _ => { g with solved := g.solved ++ [n], gen := g.gen ++ Solver.kids n }
    | _, _ => g
  | .top t k =>
    match c.pcs[t]?, c.pending[k]? with
    | some .holding, some (n, ps) =>
      if c.best = none ∨ ps > c.bestScore then g else { g with bounded := g.bounded ++ [n] }
    | _, _ => g
  | _ => g

def AInv (c : Cfg ν σ) (g : Ghost ν) : Prop :=
  List.Perm g.gen (g.solved ++ g.bounded ++ g.failed ++ flying c.pcs ++ pendNodes c.pending)

def Ghost.act (g : Ghost ν) : Act ν → Ghost ν
  | .bound n => { g with bounded := g.bounded ++ [n] }
  | .fail n => { g with failed := g.failed ++ [n] }
  | .apply n => { g with solved := g.solved ++ [n], gen := g.gen ++ pushed n }
  | _ => g

theorem ghostUpd_eq (c : Cfg ν σ) (g : Ghost ν) (ev : Ev) : ghostUpd c g ev = g.act (act c ev) := by
  cases ev with
  | acquire t =>
    simp only [ghostUpd, act]
    split
    next n hl hp =>
      simp only [hl, hp]
      cases hr : Solver.res n <;>
        simp only [Ghost.act, pushed, hr, isPanic, if_true, Bool.false_eq_true, if_false,
          List.append_nil]
    next hno =>
      split
      next n hl hp => exact absurd hp (hno n hl)
      · rfl
  | top t k =>
    simp only [ghostUpd, act]
    split
    next n ps hp hk => simp only [hp, hk]; split <;> rfl
    next hno =>
      split
      next n ps hp hk => exact absurd hk (hno n ps hp)
      · rfl
  | _ => rfl

theorem flying_nil : flying ([] : List (Pc ν)) = [] := rfl

omit [Solver ν σ] in
theorem flying_init (root : ν) (top T : Nat) : flying (init root top T : Cfg ν σ).pcs = [] :=
  List.flatMap_eq_nil_iff.2 fun _ h => by rw [List.eq_of_mem_replicate h]; rfl

/-- the subproblems dealt with; the others that have been generated are the open ones (`openNodes`) -/
def Ghost.closed (g : Ghost ν) : List ν := g.solved ++ g.bounded ++ g.failed

omit [Solver ν σ] in
theorem ainv_iff {c : Cfg ν σ} {g : Ghost ν} :
    AInv c g ↔ List.Perm g.gen (g.closed ++ openNodes c) := by
  rw [AInv, Ghost.closed, openNodes, List.append_assoc _ (flying c.pcs)]

/-- a bounded, failed or solved node is closed -/
theorem Ghost.closed_act (g : Ghost ν) (a : Act ν) :
    match a with
    | .neutral | .pop _ => (g.act a).closed = g.closed
    | .bound n | .fail n | .apply n => (g.act a).closed.Perm (n :: g.closed) := by
  cases a with
  | neutral | pop => rfl
  | bound n =>
    exact (((List.perm_append_singleton n _).append_left _).trans List.perm_middle).append_right _
  | fail n => exact ((List.perm_append_singleton n _).append_left _).trans List.perm_middle
  | apply n => exact ((List.perm_append_singleton n _).append_right _).append_right _

omit [Solver ν σ] in
theorem ainv_init (root : ν) (top T : Nat) : AInv (init root top T : Cfg ν σ) (Ghost.init root) := by
  rw [AInv, flying_init]; exact .refl _

/-- a move takes a node from the open to the closed ones, or leaves both as they are; applying a
    result besides generates the children, which are open -/
theorem ainv_move {c c' : Cfg ν σ} {g : Ghost ν} {a : Act ν} (h : AInv c g) (hm : Move c c' a) :
    AInv c' (g.act a) := by
  have ho := hm.open
  have hc := g.closed_act a
  rw [ainv_iff] at h ⊢
  cases a with
  | neutral | pop => exact h.trans (ho.symm.append_left _)
  | bound n | fail n =>
    -- gen ~ closed ++ n :: open' ~ n :: closed ++ open'
    exact (h.trans (ho.append_left _)).trans (List.perm_middle.trans (hc.symm.append_right _))
  | apply n =>
    obtain ⟨r, h1, h2⟩ := ho
    -- gen ++ kids ~ closed ++ n :: (r ++ kids) ~ (n :: closed) ++ (r ++ kids)
    have h3 := (h.trans (h1.append_left _)).append_right (pushed n)
    rw [List.append_assoc] at h3
    exact h3.trans (List.perm_middle.trans (hc.symm.append (List.perm_append_comm.trans h2.symm)))

/-- reachability in the product of the transition system with the statistics layer and the ghost
    history: start with the initial configuration, the default counters and `Ghost.init root`;
    every step of `step?` updates the counters with `statsUpd` and the history with `ghostUpd`. -/
inductive ReachG (root : ν) (top T : Nat) : Cfg ν σ × Stats × Ghost ν → Prop where
  | init : ReachG root top T (init root top T, {}, Ghost.init root)
  | step {c c' : Cfg ν σ} {st : Stats} {g : Ghost ν} {ev : Ev} :
      ReachG root top T (c, st, g) → step? c ev = some c' →
      ReachG root top T (c', statsUpd c st ev, ghostUpd c g ev)

theorem reachG_reachS {root : ν} {top T : Nat} {p : Cfg ν σ × Stats × Ghost ν}
    (h : ReachG root top T p) : ReachS root top T (p.1, p.2.1) := by
  induction h with
  | init => exact ReachS.init
  | step _ hs ih => exact ReachS.step ih (stepS_of_step _ hs)

/-- the ghost layer never blocks a step: every reachable configuration carries counters and a ghost
    history -/
theorem reach_reachG {root : ν} {top T : Nat} {c : Cfg ν σ} (h : Reach root top T c) :
    ∃ st g, ReachG root top T (c, st, g) := by
  induction h with
  | init => exact ⟨_, _, .init⟩
  | step _ hs ih =>
    obtain ⟨st, g, hg⟩ := ih
    exact ⟨_, _, .step hg hs⟩

/-- what every move keeps, the counters following it and the history recording it, holds in every
    reachable state -/
theorem ReachG.of_move {root : ν} {top T : Nat} {P : Cfg ν σ → Stats → Ghost ν → Prop}
    (h0 : P (Eng3.init root top T) {} (Ghost.init root))
    (hm : ∀ {c c' : Cfg ν σ} {st st' : Stats} {g : Ghost ν} {a : Act ν},
      P c st g → Move c c' a → st.Follows st' a → P c' st' (g.act a))
    {p : Cfg ν σ × Stats × Ghost ν} (h : ReachG root top T p) : P p.1 p.2.1 p.2.2 := by
  induction h with
  | init => exact h0
  | @step c _ st g ev _ hs ih =>
    exact ghostUpd_eq c g ev ▸ hm ih (step_of_step? hs).move (statsUpd_act c st ev)

theorem reachG_ainv {root : ν} {top T : Nat} {p : Cfg ν σ × Stats × Ghost ν}
    (h : ReachG root top T p) : AInv p.1 p.2.2 :=
  h.of_move (P := fun c _ g => AInv c g) (ainv_init root top T) fun h hm _ => ainv_move h hm

structure GLen (st : Stats) (g : Ghost ν) : Prop where
  executed : st.executed = g.solved.length
  bound : st.bound = g.bounded.length
  gen : st.gen = g.gen.length
  panicked : st.panicked = g.failed.length

/-- the counters and the history move in lockstep -/
theorem GLen.act {st st' : Stats} {g : Ghost ν} {a : Act ν} (h : GLen st g) (hst : st.Follows st' a) :
    GLen st' (g.act a) := by
  obtain ⟨h1, h2, h3, h4⟩ := h
  have add : ∀ {k : Nat} {l l' : List ν}, k = l.length → k + l'.length = (l ++ l').length :=
    fun h => by rw [List.length_append, h]
  cases a with
  | neutral | pop => cases hst; exact ⟨h1, h2, h3, h4⟩
  | bound n => cases hst; exact ⟨h1, add (l' := [n]) h2, h3, h4⟩
  | fail n => cases hst; exact ⟨h1, h2, h3, add (l' := [n]) h4⟩
  | apply n =>
    obtain ⟨e1, -, e3, e4, e5⟩ := hst
    exact ⟨e1.trans (add (l' := [n]) h1), e3.trans h2, e4.trans (add h3), e5.trans h4⟩

theorem ghost_stats {root : ν} {top T : Nat} {p : Cfg ν σ × Stats × Ghost ν}
    (h : ReachG root top T p) : GLen p.2.1 p.2.2 :=
  h.of_move (P := fun _ st g => GLen st g) ⟨rfl, rfl, rfl, rfl⟩ fun h _ hst => h.act hst

structure GRes (g : Ghost ν) : Prop where
  solved : ∀ n ∈ g.solved, isPanic (Solver.res n) = false
  failed : ∀ n ∈ g.failed, isPanic (Solver.res n) = true

theorem gres_move {c c' : Cfg ν σ} {g : Ghost ν} {a : Act ν} (h : GRes g) (hm : Move c c' a) :
    GRes (g.act a) := by
  cases hm with
  | fail hr =>
    exact ⟨h.solved, List.forall_mem_append.2 ⟨h.failed, List.forall_mem_singleton.2 hr⟩⟩
  | apply hr =>
    exact ⟨List.forall_mem_append.2 ⟨h.solved, List.forall_mem_singleton.2 hr⟩, h.failed⟩
  | _ => exact ⟨h.solved, h.failed⟩

theorem reachG_gres {root : ν} {top T : Nat} {p : Cfg ν σ × Stats × Ghost ν}
    (h : ReachG root top T p) : GRes p.2.2 :=
  h.of_move (P := fun _ _ g => GRes g) ⟨fun _ h => (nomatch h), fun _ h => (nomatch h)⟩
    fun h hm _ => gres_move h hm

/-- everything generated is a descendant of the root: the children of an open node are generated
    when its result is applied -/
theorem gen_desc_move {root : ν} {c c' : Cfg ν σ} {g : Ghost ν} {a : Act ν} (ha : AInv c g)
    (h : ∀ n ∈ g.gen, Desc n root) (hm : Move c c' a) : ∀ n ∈ (g.act a).gen, Desc n root := by
  cases a with
  | apply n =>
    have hn : Desc n root := h n ((ainv_iff.1 ha).mem_iff.2 (List.mem_append_right _ hm.apply_mem))
    exact List.forall_mem_append.2 ⟨h, fun m hm => desc_trans (.step hm (.refl _)) hn⟩
  | _ => exact h

theorem gen_desc {root : ν} {top T : Nat} {p : Cfg ν σ × Stats × Ghost ν}
    (h : ReachG root top T p) : ∀ n ∈ p.2.2.gen, Desc n root := by
  induction h with
  | init => exact fun _ hn => List.mem_singleton.1 hn ▸ .refl _
  | @step c _ _ g ev hg hs ih =>
    exact ghostUpd_eq c g ev ▸ gen_desc_move (reachG_ainv hg) ih (step_of_step? hs).move

theorem account_at_finished {root : ν} {top T : Nat} {c : Cfg ν σ} {st : Stats} {g : Ghost ν}
    (hr : ReachG root top T (c, st, g)) (hd : AllFinished c) :
    List.Perm g.gen (g.solved ++ g.bounded ++ g.failed ++ pendNodes c.pending) ∧
    g.failed.length = c.pcs.countP (fun pc => match pc with | .dead => true | _ => false) := by
  have ha : AInv c g := reachG_ainv hr
  rw [AInv, flying_of_allFinished hd, List.append_nil] at ha
  exact ⟨ha, (ghost_stats hr).panicked.symm.trans (panicked_at_finished (reachG_reachS hr) hd)⟩

theorem account_at_done {root : ν} {top T : Nat} {c : Cfg ν σ} {st : Stats} {g : Ghost ν}
    (hT : 0 < T) (hr : ReachG root top T (c, st, g)) (hd : AllDone c) :
    List.Perm g.gen (g.solved ++ g.bounded) ∧ g.failed = [] ∧
    st.gen = g.gen.length ∧ st.executed = g.solved.length ∧ st.bound = g.bounded.length := by
  obtain ⟨hperm, hfl⟩ := account_at_finished hr hd.finished
  have hpe := allDone_pending hT (reachS_reach (reachG_reachS hr)) hd
  have hz : g.failed = [] := List.eq_nil_of_length_eq_zero (hfl.trans (hd.countP_eq_zero rfl))
  rw [hpe, hz] at hperm
  have hg := ghost_stats hr
  exact ⟨by simpa [pendNodes] using hperm, hz, hg.gen, hg.executed, hg.bound⟩

section Example3
/-- three-node tree: node 0 is infeasible (bound 7) with children 1 and 2; node 1 is feasible with
    score 7; node 2 has no solution (it is never solved: it is bounded) -/
local instance exSolver3 : Solver Nat Unit :=
  ⟨fun n => match n with | 0 => .infeasible 7 | 1 => .feasible () 7 | _ => .noSol,
   fun n => match n with | 0 => [1, 2] | _ => []⟩

/-- the hypotheses of `account_at_done` are satisfiable, with a non-trivial ghost: one worker pops
    the root, applies it (children 1, 2 generated), pops and solves 1 (new incumbent, score 7), pops 2
    and discards it by bounding (7 is not better than 7), finishes -/
example : ∃ (c : Cfg Nat Unit) (st : Stats) (g : Ghost Nat), ReachG 0 10 1 (c, st, g) ∧ AllDone c ∧
    g.gen = [0, 1, 2] ∧ g.solved = [0, 1] ∧ g.bounded = [2] ∧ g.failed = [] ∧
    st.gen = 3 ∧ st.executed = 2 ∧ st.bound = 1 := by
  have r0 : ReachG 0 10 1 ((init 0 10 1 : Cfg Nat Unit), {}, Ghost.init 0) := ReachG.init
  have r1 := ReachG.step (ev := .acquire 0) r0 rfl
  have r2 := ReachG.step (ev := .top 0 0) r1 rfl
  have r3 := ReachG.step (ev := .solve 0) r2 rfl
  have r4 := ReachG.step (ev := .acquire 0) r3 rfl
  have r5 := ReachG.step (ev := .after 0) r4 rfl
  have r6 := ReachG.step (ev := .top 0 0) r5 rfl
  have r7 := ReachG.step (ev := .solve 0) r6 rfl
  have r8 := ReachG.step (ev := .acquire 0) r7 rfl
  have r9 := ReachG.step (ev := .after 0) r8 rfl
  have r10 := ReachG.step (ev := .top 0 0) r9 rfl
  have r11 := ReachG.step (ev := .after 0) r10 rfl
  refine ⟨{ pending := [], busy := 0, best := some (), bestScore := 7, lock := none, pcs := [.done] },
    { executed := 2, noSol := 0, infeasible := 1, feasible := 1, newBest := 1, bound := 1, gen := 3,
      panicked := 0 },
    { gen := [0, 1, 2], solved := [0, 1], bounded := [2], failed := [] },
    r11, allDone_iff.2 (by simp), rfl, rfl, rfl, rfl, rfl, rfl, rfl⟩
end Example3

section Example3b
/-- one-node tree whose solver panics -/
local instance exSolver3b : Solver Unit Unit := ⟨fun _ => .panic, fun _ => []⟩

/-- the hypotheses of `account_at_finished` are satisfiable with a dead worker: the root is popped,
    its solver panics, the worker dies; the root ends up in `failed` -/
example : ∃ (c : Cfg Unit Unit) (st : Stats) (g : Ghost Unit), ReachG () 0 1 (c, st, g) ∧
    AllFinished c ∧ g.gen = [()] ∧ g.solved = [] ∧ g.bounded = [] ∧ g.failed = [()] ∧
    st.panicked = 1 := by
  have r0 : ReachG () 0 1 ((init () 0 1 : Cfg Unit Unit), {}, Ghost.init ()) := ReachG.init
  have r1 := ReachG.step (ev := .acquire 0) r0 rfl
  have r2 := ReachG.step (ev := .top 0 0) r1 rfl
  have r3 := ReachG.step (ev := .solve 0) r2 rfl
  have r4 := ReachG.step (ev := .acquire 0) r3 rfl
  have r5 := ReachG.step (ev := .die 0) r4 rfl
  refine ⟨{ pending := [], busy := 0, best := none, bestScore := 0, lock := none, pcs := [.dead] },
    { panicked := 1 }, { gen := [()], failed := [()] }, r5, allFinished_iff.2 (by simp),
    rfl, rfl, rfl, rfl, rfl⟩
end Example3b

#print axioms reachG_ainv
#print axioms ghost_stats
#print axioms gen_desc
#print axioms reachG_gres
#print axioms account_at_finished
#print axioms account_at_done

/-! `Budget W` (Term.lean) is the hypothesis that the search tree is finite, below every node and hence
below the root: `W` drops by at least 5 along every edge, so there is no infinite branch, and the tree
below `n` unfolded to any depth (`subtree d n`: one entry per path, every descendant for `d` large
enough) has at most `W n / 5` entries. Conversely every size function `1 + Σ_{k ∈ pushed n} size k ≤
size n` gives the budget `5 * size`. In a run from `init root …` at most `W root / 5` subproblems are
ever generated. -/

theorem budget_child {W : ν → Nat} (hW : Budget W) {n k : ν} (hk : k ∈ pushed n) : W k + 5 ≤ W n := by
  have h : 5 + wsum W (pushed n) ≤ W n := hW.node n
  obtain ⟨l, r, e⟩ := List.append_of_mem hk
  rw [e, wsum_append, wsum_cons] at h
  omega

theorem budget_desc {W : ν → Nat} (hW : Budget W) {m n : ν} (h : Desc m n) : W m ≤ W n := by
  induction h with
  | refl => exact Nat.le_refl _
  | step hk _ ih => have := budget_child hW hk; omega

/-- the tree below `n`, unfolded to depth `d` (one entry per path from `n` of length at most `d`) -/
def subtree : Nat → ν → List ν
  | 0, n => [n]
  | d + 1, n => n :: (pushed n).flatMap (subtree d)

theorem sum_map_le_sum_map {α : Type} {f g : α → Nat} {l : List α} (h : ∀ a ∈ l, f a ≤ g a) :
    (l.map f).sum ≤ (l.map g).sum := by
  induction l with
  | nil => exact Nat.le_refl _
  | cons x xs ih =>
    exact Nat.add_le_add (h x List.mem_cons_self) (ih fun a ha => h a (List.mem_cons_of_mem _ ha))

theorem sum_map_mul_left {α : Type} (k : Nat) (f : α → Nat) (l : List α) :
    (l.map fun a => k * f a).sum = k * (l.map f).sum := by
  induction l with
  | nil => rfl
  | cons x xs ih => simp only [List.map_cons, List.sum_cons, ih, Nat.mul_add]

theorem budget_subtree {W : ν → Nat} (hW : Budget W) (d : Nat) (n : ν) :
    5 * (subtree d n).length ≤ W n := by
  induction d generalizing n with
  | zero => exact W_ge hW n
  | succ d ih =>
    have h1 := hW.node n
    have h2 := sum_map_le_sum_map (l := pushed n) fun k _ => ih k
    rw [sum_map_mul_left] at h2
    simp only [subtree, List.length_cons, List.length_flatMap]
    omega

theorem desc_subtree {m n : ν} (h : Desc m n) : ∃ d, m ∈ subtree d n := by
  induction h with
  | refl => exact ⟨0, List.mem_singleton.2 rfl⟩
  | step hk _ ih =>
    obtain ⟨d, hd⟩ := ih
    refine ⟨d + 1, ?_⟩
    simp only [subtree, List.mem_cons, List.mem_flatMap]
    exact Or.inr ⟨_, hk, hd⟩

theorem budget_of_size (size : ν → Nat) (h : ∀ n : ν, 1 + ((pushed n).map size).sum ≤ size n) :
    Budget (fun n => 5 * size n) := by
  refine ⟨fun n => ?_⟩
  have := h n
  rw [sum_map_mul_left]; omega

theorem wsum_ge {W : ν → Nat} (hW : Budget W) (l : List ν) : 5 * l.length ≤ wsum W l := by
  induction l with
  | nil => exact Nat.le_refl _
  | cons x xs ih => have := W_ge hW x; rw [wsum_cons, List.length_cons]; omega

/-- 5 for every subproblem dealt with, the full budget for the open ones: at most the budget of the
    root, at least 5 for every generated subproblem -/
def spent (W : ν → Nat) (c : Cfg ν σ) (g : Ghost ν) : Nat :=
  5 * g.closed.length + wsum W (openNodes c)

/-- `spent` never increases: a node that is dealt with keeps 5 of its budget, the rest goes to its
    children or is dropped -/
theorem spent_move {W : ν → Nat} (hW : Budget W) {c c' : Cfg ν σ} {g : Ghost ν} {a : Act ν}
    (hm : Move c c' a) : spent W c' (g.act a) ≤ spent W c g := by
  have ho := hm.open
  have hc := g.closed_act a
  unfold spent
  cases a with
  | neutral | pop => rw [wsum_perm W ho]; exact Nat.le_refl _
  | bound n | fail n =>
    have := W_ge hW n
    rw [hc.length_eq, wsum_perm W ho, wsum_cons, List.length_cons]; omega
  | apply n =>
    obtain ⟨r, h1, h2⟩ := ho
    have : 5 + wsum W (pushed n) ≤ W n := hW.node n
    rw [hc.length_eq, wsum_perm W h1, wsum_perm W h2, wsum_cons, wsum_append, List.length_cons]; omega

theorem gen_le_budget (W : ν → Nat) (hW : Budget W) {root : ν} {top T : Nat}
    {p : Cfg ν σ × Stats × Ghost ν} (h : ReachG root top T p) :
    5 * p.2.2.gen.length ≤ W root ∧ 5 * p.2.1.gen ≤ W root := by
  have hsp : spent W p.1 p.2.2 ≤ W root :=
    h.of_move (P := fun c _ g => spent W c g ≤ W root)
      (by rw [spent, openNodes, flying_init]; exact Nat.le_of_eq (Nat.zero_add _))
      fun ih hm _ => Nat.le_trans (spent_move hW hm) ih
  have hlen := (ainv_iff.1 (reachG_ainv h)).length_eq
  have := wsum_ge hW (openNodes p.1)
  rw [List.length_append] at hlen
  rw [spent] at hsp
  have key : 5 * p.2.2.gen.length ≤ W root := by omega
  exact ⟨key, (ghost_stats h).gen ▸ key⟩

inductive Run : Cfg ν σ → List Ev → Cfg ν σ → Prop where
  | nil (c : Cfg ν σ) : Run c [] c
  | cons {c c' c'' : Cfg ν σ} {ev : Ev} {evs : List Ev} :
      step? c ev = some c' → Run c' evs c'' → Run c (ev :: evs) c''

/-- `Steps` grows at the end and `Run` at the front: each direction carries the part already
    converted along -/
theorem steps_iff_run {c c' : Cfg ν σ} : Steps c c' ↔ ∃ evs, Run c evs c' := by
  constructor
  · intro h
    suffices ∀ {d evs'}, Run c' evs' d → ∃ evs, Run c evs d from this (.nil c')
    induction h with
    | refl => exact fun hr => ⟨_, hr⟩
    | step _ hs ih => exact fun hr => ih (.cons hs hr)
  · rintro ⟨evs, h⟩
    suffices ∀ {a}, Steps a c → Steps a c' from this (.refl c)
    induction h with
    | nil => exact id
    | cons h1 _ ih => exact fun ha => ih (ha.step h1)

theorem reach_iff_run {root : ν} {top T : Nat} {c : Cfg ν σ} :
    Reach root top T c ↔ ∃ evs, Run (init root top T) evs c := by
  rw [reach_iff_steps, steps_iff_run]

theorem run_len {c c' : Cfg ν σ} {evs : List Ev} (h : Run c evs c') : c'.pcs.length = c.pcs.length :=
  steps_len (steps_iff_run.2 ⟨evs, h⟩)

/-- number of events of the run that are not wake-ups: the steps taken by the program itself -/
def work (evs : List Ev) : Nat := evs.countP (fun e => !e.isWake)
/-- number of `wake` events of the run (`notify_one` or spurious wake-ups) -/
def wakeEvents (evs : List Ev) : Nat := evs.countP Ev.isWake

theorem work_cons (ev : Ev) (evs : List Ev) :
    work (ev :: evs) = work evs + if ev.isWake then 0 else 1 := by
  simp only [work, List.countP_cons]; cases ev.isWake <;> rfl

theorem wakeEvents_cons (ev : Ev) (evs : List Ev) :
    wakeEvents (ev :: evs) = wakeEvents evs + if ev.isWake then 1 else 0 :=
  List.countP_cons ..

theorem work_add_wakeEvents (evs : List Ev) : work evs + wakeEvents evs = evs.length := by
  rw [List.length_eq_countP_add_countP Ev.isWake (l := evs), Nat.add_comm, work, wakeEvents]
  exact congrArg _ (List.countP_congr fun e _ => by simp)

def wakesRun (c : Cfg ν σ) : List Ev → Nat
  | [] => 0
  | ev :: evs => wakes c ev + (match step? c ev with | some c' => wakesRun c' evs | none => 0)

theorem psi_run (W : ν → Nat) (hW : Budget W) {c c' : Cfg ν σ} {evs : List Ev} (h : Run c evs c') :
    work evs + Psi W c' ≤ Psi W c + 3 * wakesRun c evs := by
  induction h with
  | nil c => exact Nat.le_of_eq (Nat.zero_add _)
  | @cons c c1 c2 ev evs hs _ ih =>
    have h1 := psi_step W hW hs
    rw [work_cons]; simp only [wakesRun, hs]; omega

def stopped (c : Cfg ν σ) : Nat := c.pcs.countP isStopped

omit [Solver ν σ] in
theorem stopped_le (c : Cfg ν σ) : stopped c ≤ c.pcs.length := List.countP_le_length

theorem countP_stopped_set {pcs : List (Pc ν)} {t : Nat} {old : Pc ν} (h : pcs[t]? = some old)
    (ho : isStopped old = false) (new : Pc ν) :
    (pcs.set t new).countP isStopped = pcs.countP isStopped + if isStopped new then 1 else 0 := by
  have := countP_set_of_getElem? isStopped h new
  rw [ho] at this; exact this

/-- stopped workers stay stopped, so their number never decreases -/
theorem stopped_mono {c c' : Cfg ν σ} {ev : Ev} (hs : step? c ev = some c') : stopped c ≤ stopped c' := by
  obtain ⟨old, k, new, hp, hev, e⟩ := (step_of_step? hs).shape
  have ho := pcEv_alive hev
  unfold stopped
  rcases e with e | ⟨hw, e⟩ <;> rw [e]
  · rw [countP_stopped_set hp ho]; exact Nat.le_add_right ..
  · rw [countP_stopped_set (wakeAll_getElem?_of hp hw) ho, countP_wakeAll isStopped rfl]
    exact Nat.le_add_right ..

omit [Solver ν σ] in
/-- a thread that calls `notify_all` on its way out wakes fewer sleepers than there are threads, and
    stops -/
theorem notify_all_stops {c : Cfg ν σ} {t : Nat} {old new : Pc ν} (hp : c.pcs[t]? = some old)
    (hw : old ≠ .waiting) (ho : isStopped old = false) (hn : isStopped new = true) :
    c.pcs.countP isWaiting + c.pcs.length * stopped c ≤
      c.pcs.length * ((wakeAll c.pcs).set t new).countP isStopped := by
  have := countWaiting_lt hp (by cases old <;> first | rfl | exact absurd rfl hw)
  rw [countP_stopped_set (wakeAll_getElem?_of hp hw) ho, countP_wakeAll isStopped rfl, hn, if_pos rfl,
    Nat.mul_succ, stopped]
  omega

/-- Every event that wakes sleepers by `notify_all` stops its own thread for good: an `after` or
    `die` event with `wakes > 0` turns its thread into `done` / `dead`, and it wakes fewer than
    `T` sleepers; a `wake` event wakes one.  As an inequality between potentials: -/
theorem notify_step {c c' : Cfg ν σ} {ev : Ev} (hs : step? c ev = some c') :
    wakes c ev + c.pcs.length * stopped c ≤
      (if ev.isWake then 1 else 0) + c.pcs.length * stopped c' := by
  have hmono := Nat.mul_le_mul_left c.pcs.length (stopped_mono hs)
  cases step_of_step? hs with
  | wake => exact Nat.add_le_add_left hmono 1
  | afterFinish hp he hb =>
    rw [wakes_afterFinish hp he hb]
    exact Nat.le_trans (notify_all_stops hp (by simp) rfl rfl) (Nat.le_add_left ..)
  | die hp =>
    rw [wakes_die hp]
    exact Nat.le_trans (notify_all_stops hp (by simp) rfl rfl) (Nat.le_add_left ..)
  | afterContinue hp hne => rw [wakes_afterContinue hp hne]; exact Nat.add_le_add_left hmono 0
  | _ => exact Nat.add_le_add_left hmono 0

/-- summed over a run with `T` threads: the sleepers woken are at most one per `wake` event plus
    `T` per thread that stops during the run -/
theorem notify_run {T : Nat} {c c' : Cfg ν σ} {evs : List Ev} (h : Run c evs c')
    (hT : c.pcs.length = T) :
    wakesRun c evs + T * stopped c ≤ wakeEvents evs + T * stopped c' := by
  induction h with
  | nil c => exact Nat.le_refl _
  | @cons c c1 c2 ev evs hs _ ih =>
    have h1 := notify_step hs
    have h2 := ih (by rw [step_len hs, hT])
    rw [hT] at h1
    rw [wakeEvents_cons]; simp only [wakesRun, hs]; omega

theorem wakesRun_le {T : Nat} {c c' : Cfg ν σ} {evs : List Ev} (h : Run c evs c')
    (hT : c.pcs.length = T) : wakesRun c evs ≤ T * T + wakeEvents evs := by
  have h1 := notify_run h hT
  have h2 : stopped c' ≤ T := by rw [← hT, ← run_len h]; exact stopped_le c'
  have h3 := Nat.mul_le_mul_left T h2
  omega

theorem run_bound (W : ν → Nat) (hW : Budget W) {T : Nat} {c c' : Cfg ν σ} {evs : List Ev}
    (h : Run c evs c') (hT : c.pcs.length = T) :
    work evs + Psi W c' ≤ Psi W c + 3 * (T * T + wakeEvents evs) := by
  have h1 := psi_run W hW h
  have h2 := wakesRun_le h hT
  omega

omit [Solver ν σ] in
theorem psi_init (W : ν → Nat) (root : ν) (top T : Nat) :
    Psi W (init root top T : Cfg ν σ) = W root + 3 * T := by
  rw [Psi, sumPcs, init, List.map_replicate, List.sum_replicate_nat, Nat.mul_comm T]
  exact congrArg (· + 3 * T) (Nat.add_zero (W root))

theorem run_bound_init (W : ν → Nat) (hW : Budget W) {root : ν} {top T s : Nat} {c : Cfg ν σ}
    {evs : List Ev} (h : Run (init root top T) evs c) (hs : wakeEvents evs ≤ s) :
    work evs ≤ W root + 3 * T + 3 * (T * T + s) := by
  have h1 := run_bound W hW h (reach_len .init)
  rw [psi_init] at h1
  omega

theorem run_length_init (W : ν → Nat) (hW : Budget W) {root : ν} {top T s : Nat} {c : Cfg ν σ}
    {evs : List Ev} (h : Run (init root top T) evs c) (hs : wakeEvents evs ≤ s) :
    evs.length ≤ W root + 3 * T + 3 * (T * T + s) + s := by
  have h1 := run_bound_init W hW h hs
  have h2 := work_add_wakeEvents evs
  omega

section Example4
/-- the three-node tree of the example above -/
local instance exSolver4 : Solver Nat Unit :=
  ⟨fun n => match n with | 0 => .infeasible 7 | 1 => .feasible () 7 | _ => .noSol,
   fun n => match n with | 0 => [1, 2] | _ => []⟩

/-- it has a budget: 15 for the root, 5 for every other node -/
example : Budget (ν := Nat) (fun n => if n = 0 then 15 else 5) := by
  refine ⟨fun n => ?_⟩
  match n with
  | 0 => simp [pushed, Solver.res, Solver.kids]
  | 1 => simp [pushed, Solver.res]
  | n + 2 => simp [pushed, Solver.res]

/-- the hypotheses of `run_bound_init` are satisfiable: the run of the example above, as an event
    list (11 events, none of them a wake-up; the bound is 15 + 3 + 3 = 21) -/
example : ∃ c : Cfg Nat Unit, Run (init 0 10 1)
    [.acquire 0, .top 0 0, .solve 0, .acquire 0, .after 0, .top 0 0, .solve 0, .acquire 0, .after 0,
     .top 0 0, .after 0] c ∧ AllDone c := by
  refine ⟨{ pending := [], busy := 0, best := some (), bestScore := 7, lock := none, pcs := [.done] },
    ?_, allDone_iff.2 (by simp)⟩
  iterate 11 refine Run.cons rfl ?_
  exact Run.nil _
end Example4

#print axioms budget_subtree
#print axioms gen_le_budget
#print axioms psi_run
#print axioms notify_step
#print axioms notify_run
#print axioms run_bound
#print axioms run_bound_init
#print axioms run_length_init

end Eng3
