import Cdecao.Engine.SolInv
/-! From node-level specifications to optimality of the whole search (composition used by
    C02_partial, and `Bounded` for C03): an abstract solution space `S` with a score, a set `Sol n`
    of solutions consistent with each subproblem, and three facts about the node solver.

    The specification is relative to a tree invariant `Ok : ν → Prop` (the facts about the node solver
    are only needed — and for caobab only true — for nodes the search can actually produce); the
    unrelativised `NodeSpec` is the special case `Ok := fun _ => True`. -/
namespace Eng3
variable {ν σ : Type} [Solver ν σ]

/-- the part of the node specification that yields `Bounded` (no exhaustiveness, no progress) -/
structure BoundSpec (S : Type) (score : S → Nat) (Sol : ν → S → Prop) (sem : σ → S) (Ok : ν → Prop) : Prop where
  /-- the invariant is inherited by the children the engine pushes -/
  okKids : ∀ (n : ν) sc, Ok n → Solver.res n = .infeasible sc → ∀ k ∈ Solver.kids n, Ok k
  /-- a feasible verdict returns an element of the subproblem's solution set, with its score -/
  feasIn : ∀ (n : ν) sol sc, Ok n → Solver.res n = .feasible sol sc → Sol n (sem sol) ∧ score (sem sol) = sc
  /-- an infeasible verdict carries an upper bound -/
  bound : ∀ (n : ν) sc, Ok n → Solver.res n = .infeasible sc → ∀ s, Sol n s → score s ≤ sc
  /-- branching only restricts -/
  mono : ∀ (n : ν) sc, Ok n → Solver.res n = .infeasible sc → ∀ k ∈ Solver.kids n, ∀ s, Sol k s → Sol n s

structure NodeSpecOn (S : Type) (score : S → Nat) (Sol : ν → S → Prop) (sem : σ → S) (μ : ν → Nat)
    (Ok : ν → Prop) : Prop extends BoundSpec S score Sol sem Ok where
  /-- a feasible verdict returns a best element of the subproblem's solution set -/
  feasOpt : ∀ (n : ν) sol sc, Ok n → Solver.res n = .feasible sol sc → ∀ s, Sol n s → score s ≤ sc
  /-- "no solution" is only answered when the solution set is empty -/
  none : ∀ (n : ν), Ok n → Solver.res n = .noSol → ∀ s, ¬ Sol n s
  /-- the branches cover the solution set -/
  cover : ∀ (n : ν) sc, Ok n → Solver.res n = .infeasible sc → ∀ s, Sol n s → ∃ k ∈ Solver.kids n, Sol k s
  /-- branching makes progress -/
  prog : ∀ (n : ν) sc, Ok n → Solver.res n = .infeasible sc → ∀ k ∈ Solver.kids n, μ k < μ n
  nopanic : ∀ (n : ν), Ok n → Solver.res n ≠ .panic

variable {S : Type} {score : S → Nat} {Sol : ν → S → Prop} {sem : σ → S} {μ : ν → Nat} {Ok : ν → Prop}

/-- below a node that satisfies the invariant it holds too, and the solution sets only shrink -/
theorem desc_spec (h : BoundSpec S score Sol sem Ok) {f n : ν} (hd : Desc f n) (hn : Ok n) :
    Ok f ∧ ∀ s, Sol f s → Sol n s :=
  hd.inv (Inv := fun t => Ok t ∧ ∀ s, Sol t s → Sol n s)
    (fun t ⟨ht, hm⟩ k hk =>
      let ⟨sc, hr, hk'⟩ := mem_pushed.1 hk
      ⟨h.okKids t sc ht hr k hk', fun s hs => hm s (h.mono t sc ht hr k hk' s hs)⟩)
    ⟨hn, fun _ => id⟩

theorem feas_desc (h : BoundSpec S score Sol sem Ok) {f n : ν} {sol : σ} {sc : Nat} (hn : Ok n)
    (hd : Desc f n) (hf : Solver.res f = .feasible sol sc) : Sol n (sem sol) ∧ score (sem sol) = sc :=
  let ⟨hok, hm⟩ := desc_spec h hd hn
  let ⟨h1, h2⟩ := h.feasIn f sol sc hok hf
  ⟨hm _ h1, h2⟩

theorem feas_le_top (h : BoundSpec S score Sol sem Ok) {root : ν} (hroot : Ok root) {top : Nat}
    (htop : ∀ s, Sol root s → score s ≤ top) : ∀ f sc, Desc f root → IsFeas f sc → sc ≤ top :=
  fun _ _ hdf ⟨_, hf⟩ => let ⟨h1, h2⟩ := feas_desc h hroot hdf hf; h2 ▸ htop _ h1

/-- the node scores bound everything below: the hypothesis of the engine theorems -/
theorem bounded_of_bspec (h : BoundSpec S score Sol sem Ok) (root : ν) (hroot : Ok root) : Bounded root := by
  intro n hdn s hs k hk f sc hdf ⟨sol, hf⟩
  have hn : Ok n := (desc_spec h hdn hroot).1
  obtain ⟨h1, h2⟩ := feas_desc h (h.okKids n s hn hs k hk) hdf hf
  exact h2 ▸ h.bound n s hn hs _ (h.mono n s hn hs k hk _ h1)

/-- every solution of a subproblem is dominated by a feasible node below it -/
theorem exists_feasible_above_on (h : NodeSpecOn S score Sol sem μ Ok) : ∀ (m : Nat) (n : ν), μ n < m → Ok n →
    ∀ s, Sol n s → ∃ f sol sc, Desc f n ∧ Solver.res f = .feasible sol sc ∧ score s ≤ sc := by
  intro m
  induction m with
  | zero => intro n hn; exact absurd hn (Nat.not_lt_zero _)
  | succ m ih =>
    intro n hn hok s hs
    cases hr : Solver.res n with
    | feasible sol sc => exact ⟨n, sol, sc, Desc.refl _, hr, h.feasOpt n sol sc hok hr s hs⟩
    | noSol => exact absurd hs (h.none n hok hr s)
    | panic => exact absurd hr (h.nopanic n hok)
    | infeasible sc =>
      -- one of the children still has `s`, and the measure goes down
      obtain ⟨k, hk, hks⟩ := h.cover n sc hok hr s hs
      have hμ := h.prog n sc hok hr k hk
      obtain ⟨f, sol, sc', hd, hf, hle⟩ := ih k (by omega) (h.okKids n sc hok hr k hk) s hks
      exact ⟨f, sol, sc', Desc.step (mem_pushed.2 ⟨sc, hr, hk⟩) hd, hf, hle⟩

theorem bab_optimal_on (h : NodeSpecOn S score Sol sem μ Ok) {root : ν} (hroot : Ok root) {top T : Nat}
    {c : Cfg ν σ} (hT : 0 < T)
    (htop : ∀ s, Sol root s → score s ≤ top) (hr : Reach root top T c) (hd : AllDone c) :
    (c.best = none → ∀ s, ¬ Sol root s) ∧
    (∀ sol, c.best = some sol → Sol root (sem sol) ∧ score (sem sol) = c.bestScore ∧
      ∀ s, Sol root s → score s ≤ c.bestScore) := by
  have hb := bounded_of_bspec h.toBoundSpec root hroot
  obtain ⟨a, b⟩ := C09_final hT hb (feas_le_top h.toBoundSpec hroot htop) hr hd
  have dom : ∀ s, Sol root s → c.best ≠ none ∧ score s ≤ c.bestScore := by
    intro s hs
    obtain ⟨f, sol, sc, hdf, hf, hle⟩ := exists_feasible_above_on h _ root (Nat.lt_succ_self _) hroot s hs
    obtain ⟨h1, h2⟩ := a f sc hdf ⟨sol, hf⟩
    exact ⟨h1, by omega⟩
  refine ⟨?_, ?_⟩
  · intro hn s hs; exact (dom s hs).1 hn
  · intro sol hsol
    rcases b with hn | ⟨f, sol', hdf, hf, hbest⟩
    · rw [hn] at hsol; cases hsol
    · rw [hbest] at hsol; cases hsol
      obtain ⟨h1, h2⟩ := feas_desc h.toBoundSpec hroot hdf hf
      exact ⟨h1, h2, fun s hs => (dom s hs).2⟩

structure NodeSpec (S : Type) (score : S → Nat) (Sol : ν → S → Prop) (sem : σ → S) (μ : ν → Nat) : Prop where
  /-- a feasible verdict returns a best element of the subproblem's solution set, with its score -/
  feas : ∀ (n : ν) sol sc, Solver.res n = .feasible sol sc →
      Sol n (sem sol) ∧ score (sem sol) = sc ∧ ∀ s, Sol n s → score s ≤ sc
  /-- "no solution" is only answered when the solution set is empty -/
  none : ∀ (n : ν), Solver.res n = .noSol → ∀ s, ¬ Sol n s
  /-- an infeasible verdict carries an upper bound, the branches cover the solution set, branching only
      restricts, and it makes progress -/
  bound : ∀ (n : ν) sc, Solver.res n = .infeasible sc → ∀ s, Sol n s → score s ≤ sc
  cover : ∀ (n : ν) sc, Solver.res n = .infeasible sc → ∀ s, Sol n s → ∃ k ∈ Solver.kids n, Sol k s
  mono : ∀ (n : ν) sc, Solver.res n = .infeasible sc → ∀ k ∈ Solver.kids n, ∀ s, Sol k s → Sol n s
  prog : ∀ (n : ν) sc, Solver.res n = .infeasible sc → ∀ k ∈ Solver.kids n, μ k < μ n
  nopanic : ∀ (n : ν), Solver.res n ≠ .panic

theorem NodeSpec.on (h : NodeSpec S score Sol sem μ) : NodeSpecOn S score Sol sem μ (fun _ => True) where
  okKids := fun _ _ _ _ _ _ => trivial
  feasIn := fun n sol sc _ hr => ⟨(h.feas n sol sc hr).1, (h.feas n sol sc hr).2.1⟩
  bound := fun n sc _ => h.bound n sc
  mono := fun n sc _ => h.mono n sc
  feasOpt := fun n sol sc _ hr => (h.feas n sol sc hr).2.2
  none := fun n _ => h.none n
  cover := fun n sc _ => h.cover n sc
  prog := fun n sc _ => h.prog n sc
  nopanic := fun n _ => h.nopanic n

theorem sol_mono_desc (h : NodeSpec S score Sol sem μ) {f n : ν} (hd : Desc f n) : ∀ s, Sol f s → Sol n s :=
  (desc_spec h.on.toBoundSpec hd trivial).2

theorem bounded_of_spec (h : NodeSpec S score Sol sem μ) (root : ν) : Bounded root :=
  bounded_of_bspec h.on.toBoundSpec root trivial

theorem exists_feasible_above (h : NodeSpec S score Sol sem μ) : ∀ (m : Nat) (n : ν), μ n ≤ m → ∀ s, Sol n s →
    ∃ f sol sc, Desc f n ∧ Solver.res f = .feasible sol sc ∧ score s ≤ sc :=
  fun m n hn => exists_feasible_above_on h.on (m + 1) n (Nat.lt_succ_of_le hn) trivial

theorem bab_optimal (h : NodeSpec S score Sol sem μ) {root : ν} {top T : Nat} {c : Cfg ν σ} (hT : 0 < T)
    (htop : ∀ s, Sol root s → score s ≤ top) (hr : Reach root top T c) (hd : AllDone c) :
    (c.best = none → ∀ s, ¬ Sol root s) ∧
    (∀ sol, c.best = some sol → Sol root (sem sol) ∧ score (sem sol) = c.bestScore ∧
      ∀ s, Sol root s → score s ≤ c.bestScore) :=
  bab_optimal_on h.on (root := root) trivial hT htop hr hd

#print axioms bab_optimal_on
#print axioms bab_optimal
end Eng3
