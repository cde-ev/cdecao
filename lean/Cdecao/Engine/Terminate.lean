import Cdecao.Engine.Account
/-! Termination of the parallel search on finite trees (`Budget W`). The whole potential `Phi` pays for
every non-wake event of a run, and as long as the search is not finished some non-wake event is
enabled: once wake-ups stop, the search finishes within an explicit bound whatever the scheduler does,
and an infinite run contains infinitely many (spurious) wake-ups. `AllFinished` allows `dead` workers,
so failing solvers are covered. Fairness is not needed for the bounds, only to say that a run does not
stop early. Core only (no Mathlib). -/
namespace Eng3
variable {ν σ : Type} [Solver ν σ]

def WakeFree (evs : List Ev) : Prop := ∀ ev ∈ evs, ev.isWake = false

theorem Run.append {a b c : Cfg ν σ} {e1 e2 : List Ev} (h1 : Run a e1 b) (h2 : Run b e2 c) :
    Run a (e1 ++ e2) c := by
  induction h1 with
  | nil _ => exact h2
  | cons hs _ ih => exact Run.cons hs (ih h2)

theorem wakeEvents_of_wakeFree {evs : List Ev} (h : WakeFree evs) : wakeEvents evs = 0 :=
  List.countP_eq_zero.2 fun ev hev => by rw [h ev hev]; decide

theorem work_of_wakeFree {evs : List Ev} (h : WakeFree evs) : work evs = evs.length := by
  have h1 := work_add_wakeEvents evs
  rw [wakeEvents_of_wakeFree h] at h1
  exact h1

theorem wakeFree_nil : WakeFree [] := fun _ h => nomatch h

/-- the whole potential of a configuration: `Psi`, and 3 for each of the sleepers — fewer than there
    are threads — that every thread not yet stopped may wake when it stops -/
def Phi (W : ν → Nat) (c : Cfg ν σ) : Nat :=
  Psi W c + 3 * (c.pcs.length * (c.pcs.length - stopped c))

/-- the potential pays for every non-wake event of a run; a `wake` event adds 3 -/
theorem phi_run {W : ν → Nat} (hW : Budget W) {c c' : Cfg ν σ} {evs : List Ev} (h : Run c evs c') :
    work evs + Phi W c' ≤ Phi W c + 3 * wakeEvents evs := by
  have h1 := psi_run W hW h
  have h2 := notify_run h rfl
  have h3 := Nat.mul_le_mul_left c.pcs.length (stopped_le c)
  have h4 := Nat.mul_le_mul_left c'.pcs.length (stopped_le c')
  rw [run_len h] at h4
  rw [Phi, Phi, run_len h, Nat.mul_sub _ _ (stopped c'), Nat.mul_sub _ _ (stopped c)]
  omega

theorem phi_wakefree {W : ν → Nat} (hW : Budget W) {c c' : Cfg ν σ} {evs : List Ev}
    (h : Run c evs c') (hwf : WakeFree evs) : evs.length + Phi W c' ≤ Phi W c := by
  have := phi_run hW h
  rw [work_of_wakeFree hwf, wakeEvents_of_wakeFree hwf] at this
  exact this

theorem phi_step {W : ν → Nat} (hW : Budget W) {c c' : Cfg ν σ} {ev : Ev}
    (hs : step? c ev = some c') (hw : ev.isWake = false) : Phi W c' < Phi W c := by
  have := phi_wakefree hW (.cons hs (.nil _)) (List.forall_mem_cons.2 ⟨hw, wakeFree_nil⟩)
  rwa [List.length_singleton, Nat.add_comm] at this

omit [Solver ν σ] in
theorem phi_init (W : ν → Nat) (root : ν) (top T : Nat) :
    Phi W (init root top T : Cfg ν σ) = W root + 3 * T + 3 * (T * T) := by
  have : stopped (init root top T : Cfg ν σ) = 0 :=
    List.countP_eq_zero.2 fun _ h => by rw [List.eq_of_mem_replicate h]; simp [isStopped]
  rw [Phi, psi_init, this]; simp [init]

/-- what a history from the start with at most `s` wake-ups leaves of the potential -/
theorem phi_from_init {W : ν → Nat} (hW : Budget W) {root : ν} {top T s : Nat} {c : Cfg ν σ}
    {evs0 : List Ev} (h0 : Run (init root top T) evs0 c) (hs : wakeEvents evs0 ≤ s) :
    work evs0 + Phi W c ≤ W root + 3 * T + 3 * (T * T + s) := by
  have := phi_run hW h0
  rw [phi_init] at this
  omega

theorem continuation_bound (W : ν → Nat) (hW : Budget W) {root : ν} {top T s s' : Nat}
    {c c' : Cfg ν σ} {evs0 evs : List Ev} (h0 : Run (init root top T) evs0 c)
    (hs : wakeEvents evs0 ≤ s) (h : Run c evs c') (hs' : wakeEvents evs ≤ s') :
    work evs0 + work evs + Psi W c' ≤ W root + 3 * T + 3 * (T * T + (s + s')) := by
  have h1 := phi_from_init hW h0 hs
  have h2 := phi_run hW h
  have h3 : Psi W c' ≤ Phi W c' := Nat.le_add_right ..
  omega

theorem wakefree_bound_strong (W : ν → Nat) (hW : Budget W) {root : ν} {top T s : Nat}
    {c c' : Cfg ν σ} {evs0 evs : List Ev} (h0 : Run (init root top T) evs0 c)
    (hs : wakeEvents evs0 ≤ s) (h : Run c evs c') (hwf : WakeFree evs) :
    work evs0 + evs.length + Psi W c' ≤ W root + 3 * T + 3 * (T * T + s) := by
  have h1 := continuation_bound W hW h0 hs h (Nat.le_of_eq (wakeEvents_of_wakeFree hwf))
  rwa [work_of_wakeFree hwf] at h1

theorem wakefree_bound (W : ν → Nat) (hW : Budget W) {root : ν} {top T s : Nat}
    {c c' : Cfg ν σ} {evs0 evs : List Ev} (h0 : Run (init root top T) evs0 c)
    (hs : wakeEvents evs0 ≤ s) (h : Run c evs c') (hwf : WakeFree evs) :
    evs.length ≤ W root + 3 * T + 3 * (T * T + s) :=
  Nat.le_trans (Nat.le_trans (Nat.le_add_left ..) (Nat.le_add_right ..))
    (wakefree_bound_strong W hW h0 hs h hwf)

theorem wakefree_bound_local (W : ν → Nat) (hW : Budget W) {T : Nat} {c c' : Cfg ν σ}
    {evs : List Ev} (h : Run c evs c') (hT : c.pcs.length = T) (hwf : WakeFree evs) :
    evs.length + Psi W c' ≤ Psi W c + 3 * (T * (T - stopped c)) := by
  have := phi_wakefree hW h hwf
  rw [Phi, Phi, hT] at this
  omega

theorem wakefree_maximal_finished {root : ν} {top T : Nat} {c : Cfg ν σ} (hT : 0 < T)
    (hr : Reach root top T c) (hmax : ∀ ev, ev.isWake = false → step? c ev = none) :
    AllFinished c := by
  apply Classical.byContradiction
  intro hnf
  obtain ⟨ev, h1, h2⟩ := C04_no_deadlock hT hr hnf
  rw [hmax ev h1] at h2
  cases h2

theorem wakefree_maximal_iff {root : ν} {top T : Nat} {c : Cfg ν σ} (hT : 0 < T)
    (hr : Reach root top T c) :
    (∀ ev, ev.isWake = false → step? c ev = none) ↔ AllFinished c :=
  ⟨wakefree_maximal_finished hT hr, fun hf ev _ => finished_no_step hf ev⟩

theorem run_of_finished {c c' : Cfg ν σ} {evs : List Ev} (hf : AllFinished c) (h : Run c evs c') :
    evs = [] ∧ c' = c := by
  cases h with
  | nil => exact ⟨rfl, rfl⟩
  | cons hs _ => rw [finished_no_step hf] at hs; cases hs

/-- From any configuration with the lock invariant, reachable or not: as long as the search is not
    finished some non-wake event is enabled (`exists_step`), and each one lowers the potential.
    `phi_wakefree` bounds the length of the run. -/
theorem finishes_local {W : ν → Nat} (hW : Budget W) {c : Cfg ν σ} (hl : LInv c) :
    ∃ (evs : List Ev) (c' : Cfg ν σ), Run c evs c' ∧ WakeFree evs ∧ AllFinished c' := by
  generalize hn : Phi W c = n
  induction n using Nat.strongRecOn generalizing c with
  | ind n ih =>
    by_cases hf : AllFinished c
    · exact ⟨[], c, .nil _, wakeFree_nil, hf⟩
    · obtain ⟨ev, c1, hw, hc1⟩ := exists_step hl hf
      obtain ⟨evs, c', hr, hwf, hfin⟩ := ih _ (hn ▸ phi_step hW hc1 hw) (linv_step hl hc1) rfl
      exact ⟨ev :: evs, c', .cons hc1 hr, List.forall_mem_cons.2 ⟨hw, hwf⟩, hfin⟩

theorem wakefree_extend (W : ν → Nat) (hW : Budget W) {root : ν} {top T s : Nat} {c : Cfg ν σ}
    {evs0 : List Ev} (hT : 0 < T) (h0 : Run (init root top T) evs0 c) (hs : wakeEvents evs0 ≤ s) :
    ∀ (evs : List Ev) (c' : Cfg ν σ), Run c evs c' → WakeFree evs →
      ∃ (evs' : List Ev) (c'' : Cfg ν σ), Run c' evs' c'' ∧ WakeFree evs' ∧ AllFinished c'' ∧
        evs.length + evs'.length ≤ W root + 3 * T + 3 * (T * T + s) := by
  intro evs c' h hwf
  obtain ⟨evs', c'', h', hwf', hf⟩ :=
    finishes_local hW (reach_linv hT (reach_iff_run.2 ⟨_, h0.append h⟩))
  have h1 := phi_wakefree hW h hwf
  have h2 := phi_wakefree hW h' hwf'
  exact ⟨evs', c'', h', hwf', hf, Nat.le_trans (by omega) (phi_from_init hW h0 hs)⟩

theorem terminates (W : ν → Nat) (hW : Budget W) {root : ν} {top T s : Nat} {c : Cfg ν σ}
    {evs0 : List Ev} (hT : 0 < T) (h0 : Run (init root top T) evs0 c) (hs : wakeEvents evs0 ≤ s) :
    (∃ (evs : List Ev) (c' : Cfg ν σ), Run c evs c' ∧ WakeFree evs ∧ AllFinished c' ∧
        evs.length ≤ W root + 3 * T + 3 * (T * T + s)) ∧
    (∀ (evs : List Ev) (c' : Cfg ν σ), Run c evs c' → WakeFree evs →
      ∃ (evs' : List Ev) (c'' : Cfg ν σ), Run c' evs' c'' ∧ WakeFree evs' ∧ AllFinished c'' ∧
        evs.length + evs'.length ≤ W root + 3 * T + 3 * (T * T + s)) := by
  have h2 := wakefree_extend W hW hT h0 hs
  refine ⟨?_, h2⟩
  obtain ⟨evs', c'', h, hwf, hf, hle⟩ := h2 [] c (Run.nil _) wakeFree_nil
  exact ⟨evs', c'', h, hwf, hf, by rwa [List.length_nil, Nat.zero_add] at hle⟩

theorem terminates_reach (W : ν → Nat) (hW : Budget W) {root : ν} {top T : Nat} {c : Cfg ν σ}
    (hT : 0 < T) (hr : Reach root top T c) :
    ∃ (evs : List Ev) (c' : Cfg ν σ), Run c evs c' ∧ WakeFree evs ∧ AllFinished c' :=
  finishes_local hW (reach_linv hT hr)

theorem wakefree_progress (W : ν → Nat) (hW : Budget W) {root : ν} {top T s : Nat}
    {c c' : Cfg ν σ} {evs0 evs : List Ev} (hT : 0 < T) (h0 : Run (init root top T) evs0 c)
    (hs : wakeEvents evs0 ≤ s) (h : Run c evs c') (hwf : WakeFree evs) :
    (AllFinished c' ∧ ∀ ev, step? c' ev = none) ∨
    (∃ ev c'', ev.isWake = false ∧ step? c' ev = some c'' ∧
      evs.length < W root + 3 * T + 3 * (T * T + s)) := by
  by_cases hf : AllFinished c'
  · exact Or.inl ⟨hf, finished_no_step hf⟩
  · obtain ⟨ev, c1, hw, hc1⟩ :=
      exists_step (reach_linv hT (reach_iff_run.2 ⟨_, h0.append h⟩)) hf
    have h2 := phi_wakefree hW h hwf
    have h3 := phi_step hW hc1 hw
    exact Or.inr ⟨ev, c1, hw, hc1, Nat.lt_of_lt_of_le (by omega) (phi_from_init hW h0 hs)⟩

/-- an infinite run: configurations `f i` and events `e i` with `f i --e i--> f (i+1)` -/
def InfRun (f : Nat → Cfg ν σ) (e : Nat → Ev) : Prop := ∀ i, step? (f i) (e i) = some (f (i + 1))

theorem InfRun.prefix {f : Nat → Cfg ν σ} {e : Nat → Ev} (h : InfRun f e) (n : Nat) :
    Run (f 0) ((List.range n).map e) (f n) := by
  induction n with
  | zero => exact Run.nil _
  | succ n ih =>
    rw [List.range_succ, List.map_append]
    exact ih.append (.cons (h n) (.nil _))

theorem countP_prefix_le {α : Type} {p : α → Bool} {e : Nat → α} {N : Nat}
    (h : ∀ i, N ≤ i → p (e i) = false) (n : Nat) : ((List.range n).map e).countP p ≤ N := by
  induction n with
  | zero => exact Nat.zero_le _
  | succ n ih =>
    rw [List.range_succ, List.map_append, List.countP_append, List.map_singleton,
      List.countP_singleton]
    by_cases hn : N ≤ n
    · rw [h n hn]; exact ih
    · have := List.countP_le_length (p := p) (l := (List.range n).map e)
      rw [List.length_map, List.length_range] at this
      split <;> omega

/-- if the length of every prefix of a sequence is bounded in terms of the number of its hits, then
    after every index there is another hit -/
theorem frequently_of_prefix_bound {α : Type} (p : α → Bool) (e : Nat → α) (b : Nat → Nat)
    (h : ∀ n s, ((List.range n).map e).countP p ≤ s → n ≤ b s) (N : Nat) :
    ∃ i, N ≤ i ∧ p (e i) = true := by
  apply Classical.byContradiction
  intro hcon
  have hno : ∀ i, N ≤ i → p (e i) = false := fun i hi =>
    Bool.eq_false_iff.2 fun hp => hcon ⟨i, hi, hp⟩
  exact Nat.not_succ_le_self _ (h (b N + 1) N (countP_prefix_le hno _))

/-- an infinite run from any configuration of a finite tree, reachable or not, contains infinitely
    many `wake` events: a prefix with `s` of them has at most `Phi W (f 0) + 3 * s` others -/
theorem infRun_wakes {W : ν → Nat} (hW : Budget W) {f : Nat → Cfg ν σ} {e : Nat → Ev}
    (h : InfRun f e) : ∀ N, ∃ i, N ≤ i ∧ (e i).isWake = true := by
  refine frequently_of_prefix_bound Ev.isWake e (fun s => Phi W (f 0) + 4 * s) fun n s hs => ?_
  change wakeEvents _ ≤ s at hs
  have hb := phi_run hW (h.prefix n)
  have hsum := work_add_wakeEvents ((List.range n).map e)
  rw [List.length_map, List.length_range] at hsum
  omega

theorem infinite_run_wakes (W : ν → Nat) (hW : Budget W) {root : ν} {top T : Nat}
    {f : Nat → Cfg ν σ} {e : Nat → Ev} (hr : Reach root top T (f 0)) (h : InfRun f e) :
    ∀ N, ∃ i, N ≤ i ∧ (e i).isWake = true :=
  infRun_wakes hW h

theorem no_infinite_wakefree_run (W : ν → Nat) (hW : Budget W) {root : ν} {top T : Nat}
    {f : Nat → Cfg ν σ} {e : Nat → Ev} (hr : Reach root top T (f 0)) (h : InfRun f e) :
    ∃ i, (e i).isWake = true := by
  obtain ⟨i, _, hi⟩ := infinite_run_wakes W hW hr h 0
  exact ⟨i, hi⟩

/-- number of `notify_one` calls the event performs (bab.rs:305-313): applying an `Infeasible`
    result pushes the children and calls `notify_one` once per child except the first -/
def notifies (c : Cfg ν σ) : Ev → Nat
  | .acquire t =>
    match c.lock, c.pcs[t]? with
    | none, some (.want (some n)) =>
      match Solver.res n with
      | .infeasible _ => (Solver.kids n).length - 1
      | _ => 0
    | _, _ => 0
  | _ => 0

/-- The `wake t` event of the model does not say why thread `t` wakes up: it stands for a `notify_one`
    (bab.rs:311) as well as for a spurious wake-up, so the bounds above have the total number of `wake`
    events as a parameter.  This ghost layer separates the two causes (`step?` is not touched): a
    counter holds the notifications issued and not yet used.  Tag `false`: an ordinary step of
    `step?` — if it is a `wake` event it is a spurious wake-up; the `notify_one` calls of the step are
    added to the counter.  Tag `true`: a `wake` event caused by a `notify_one`; it uses up one
    notification.  This over-approximates the condition variable (a notification issued while nobody
    sleeps is lost in reality and kept here), which is the right direction for an upper bound. -/
inductive NStep : Cfg ν σ → Nat → Ev × Bool → Cfg ν σ → Nat → Prop where
  | plain {c c' : Cfg ν σ} {ev : Ev} {k : Nat} :
      step? c ev = some c' → NStep c k (ev, false) c' (k + notifies c ev)
  | notified {c c' : Cfg ν σ} {t : Nat} {k : Nat} :
      step? c (.wake t) = some c' → NStep c (k + 1) (.wake t, true) c' k

inductive NRun : Cfg ν σ → Nat → List (Ev × Bool) → Cfg ν σ → Nat → Prop where
  | nil (c : Cfg ν σ) (k : Nat) : NRun c k [] c k
  | cons {c c' c'' : Cfg ν σ} {k k' k'' : Nat} {x : Ev × Bool} {l : List (Ev × Bool)} :
      NStep c k x c' k' → NRun c' k' l c'' k'' → NRun c k (x :: l) c'' k''

theorem NRun.snoc {c c' c'' : Cfg ν σ} {k k' k'' : Nat} {x : Ev × Bool} {l : List (Ev × Bool)}
    (h : NRun c k l c' k') (hs : NStep c' k' x c'' k'') : NRun c k (l ++ [x]) c'' k'' := by
  induction h with
  | nil c k => exact NRun.cons hs (NRun.nil _ _)
  | cons h1 _ ih => exact NRun.cons h1 (ih hs)

def untag (l : List (Ev × Bool)) : List Ev := l.map (·.1)
/-- the `wake` events attributed to a `notify_one` -/
def notifiedWakes (l : List (Ev × Bool)) : Nat := l.countP (fun x => x.2)
def spurious (l : List (Ev × Bool)) : Nat := l.countP (fun x => x.1.isWake && !x.2)

def notifiesRun (c : Cfg ν σ) : List Ev → Nat
  | [] => 0
  | ev :: evs => notifies c ev + (match step? c ev with | some c' => notifiesRun c' evs | none => 0)

theorem spurious_cons (x : Ev × Bool) (l : List (Ev × Bool)) :
    spurious (x :: l) = spurious l + if (x.1.isWake && !x.2) then 1 else 0 :=
  List.countP_cons ..

theorem notifiedWakes_cons (x : Ev × Bool) (l : List (Ev × Bool)) :
    notifiedWakes (x :: l) = notifiedWakes l + if x.2 then 1 else 0 :=
  List.countP_cons ..

/-- the three facts about a tagged step, as sums of `if … then 1 else 0` so that the counts of
    `nrun_run` add up by `omega` -/
theorem nstep_step {c c' : Cfg ν σ} {k k' : Nat} {x : Ev × Bool} (h : NStep c k x c' k') :
    step? c x.1 = some c' ∧
    (if x.1.isWake then 1 else 0) = (if (x.1.isWake && !x.2) then 1 else 0) + (if x.2 then 1 else 0) ∧
      (if x.2 then 1 else 0) + k' = k + notifies c x.1 := by
  cases h with
  | @plain _ ev _ hst => exact ⟨hst, by cases ev.isWake <;> rfl, Nat.zero_add _⟩
  | notified hst => exact ⟨hst, rfl, Nat.add_comm ..⟩

theorem nrun_run {c c' : Cfg ν σ} {k k' : Nat} {l : List (Ev × Bool)} (h : NRun c k l c' k') :
    Run c (untag l) c' ∧ wakeEvents (untag l) = spurious l + notifiedWakes l ∧
      notifiedWakes l + k' = k + notifiesRun c (untag l) := by
  induction h with
  | nil c k => exact ⟨Run.nil _, rfl, Nat.zero_add _⟩
  | @cons c c1 c2 k k1 k2 x l hs _ ih =>
    obtain ⟨ih1, ih2, ih3⟩ := ih
    obtain ⟨hst, hwake, hk⟩ := nstep_step hs
    have hu : untag (x :: l) = x.1 :: untag l := rfl
    rw [hu, wakeEvents_cons, spurious_cons, notifiedWakes_cons]
    refine ⟨Run.cons hst ih1, by omega, ?_⟩
    simp only [notifiesRun, hst]
    omega

theorem Ghost.act_le (g : Ghost ν) (a : Act ν) : g.gen.length ≤ (g.act a).gen.length := by
  cases a <;> simp [Ghost.act]

/-- the `notify_one` calls of a step are fewer than the subproblems it generates -/
theorem notifies_le_gen (c : Cfg ν σ) (g : Ghost ν) (ev : Ev) :
    g.gen.length + notifies c ev ≤ (ghostUpd c g ev).gen.length := by
  rw [ghostUpd_eq]
  cases ev with
  | acquire t =>
    simp only [notifies, act]
    split
    next n hl hp =>
      simp only [hl, hp]
      cases hr : Solver.res n <;> simp [Ghost.act, pushed, hr, isPanic]
    next hno =>
      split
      next n hl hp => exact absurd hp (hno n hl)
      · exact Nat.le_refl _
  | _ => exact g.act_le _

theorem run_reachG {root : ν} {top T : Nat} {c c' : Cfg ν σ} {evs : List Ev} (h : Run c evs c') :
    ∀ {st : Stats} {g : Ghost ν}, ReachG root top T (c, st, g) →
      ∃ st' g', ReachG root top T (c', st', g') ∧ g.gen.length + notifiesRun c evs ≤ g'.gen.length := by
  induction h with
  | nil c => exact fun hg => ⟨_, _, hg, Nat.le_refl _⟩
  | @cons c c1 c2 ev evs hs _ ih =>
    intro st g hg
    obtain ⟨st', g', hg', h1⟩ := ih (ReachG.step hg hs)
    have := notifies_le_gen c g ev
    simp only [notifiesRun, hs]
    exact ⟨st', g', hg', by omega⟩

/-- the `notify_one` calls of a run from the start are fewer than the generated subproblems, hence
    fewer than `W root / 5` (`gen_le_budget`) -/
theorem notifiesRun_le_budget (W : ν → Nat) (hW : Budget W) {root : ν} {top T : Nat} {c : Cfg ν σ}
    {evs : List Ev} (h : Run (init root top T) evs c) :
    5 * (notifiesRun (init root top T : Cfg ν σ) evs + 1) ≤ W root := by
  obtain ⟨st', g', hg', h1⟩ := run_reachG h (ReachG.init (root := root) (top := top) (T := T))
  have h2 : 5 * g'.gen.length ≤ W root := (gen_le_budget W hW hg').1
  simp only [Ghost.init, List.length_singleton] at h1
  omega

theorem nrun_bound (W : ν → Nat) (hW : Budget W) {root : ν} {top T sp k' : Nat} {c : Cfg ν σ}
    {l : List (Ev × Bool)} (h : NRun (init root top T) 0 l c k') (hsp : spurious l ≤ sp) :
    5 * (notifiedWakes l + 1) ≤ W root ∧
    work (untag l) ≤ W root + 3 * T + 3 * (T * T + (sp + W root / 5)) ∧
    l.length ≤ W root + 3 * T + 3 * (T * T + (sp + W root / 5)) + (sp + W root / 5) := by
  obtain ⟨hrun, hwk, hk⟩ := nrun_run h
  have hn := notifiesRun_le_budget W hW hrun
  have hw : wakeEvents (untag l) ≤ sp + W root / 5 := by omega
  have hlen := run_length_init W hW hrun hw
  rw [untag, List.length_map] at hlen
  exact ⟨by omega, run_bound_init W hW hrun hw, hlen⟩

def InfNRun (f : Nat → Cfg ν σ) (k : Nat → Nat) (e : Nat → Ev × Bool) : Prop :=
  ∀ i, NStep (f i) (k i) (e i) (f (i + 1)) (k (i + 1))

theorem InfNRun.prefix {f : Nat → Cfg ν σ} {k : Nat → Nat} {e : Nat → Ev × Bool}
    (h : InfNRun f k e) (n : Nat) : NRun (f 0) (k 0) ((List.range n).map e) (f n) (k n) := by
  induction n with
  | zero => exact NRun.nil _ _
  | succ n ih =>
    rw [List.range_succ, List.map_append]
    exact ih.snoc (h n)

theorem infinite_run_spurious (W : ν → Nat) (hW : Budget W) {root : ν} {top T : Nat}
    {f : Nat → Cfg ν σ} {k : Nat → Nat} {e : Nat → Ev × Bool} (hf : f 0 = init root top T)
    (hk : k 0 = 0) (h : InfNRun f k e) :
    ∀ N, ∃ i, N ≤ i ∧ (e i).1.isWake = true ∧ (e i).2 = false := by
  intro N
  obtain ⟨i, hi, hp⟩ := frequently_of_prefix_bound (fun x : Ev × Bool => x.1.isWake && !x.2) e
    (fun sp => W root + 3 * T + 3 * (T * T + (sp + W root / 5)) + (sp + W root / 5))
    (fun n sp hsp => by
      have hb := (nrun_bound W hW (hk ▸ hf ▸ h.prefix n) hsp).2.2
      rwa [List.length_map, List.length_range] at hb) N
  rw [Bool.and_eq_true, Bool.not_eq_true'] at hp
  exact ⟨i, hi, hp⟩

theorem gone_mono {c c' : Cfg ν σ} {evs : List Ev} (h : Run c evs c') :
    c.pcs.countP isGone ≤ c'.pcs.countP isGone := by
  induction h with
  | nil => exact Nat.le_refl _
  | cons hs _ ih => exact Nat.le_trans ((step_of_step? hs).move.gone ▸ Nat.le_add_right ..) ih

theorem finished_after_failure {root : ν} {top T : Nat} {c c' : Cfg ν σ} {evs : List Ev} {t : Nat}
    (hr : Reach root top T c) (hgone : c.pcs[t]? = some Pc.dying ∨ c.pcs[t]? = some Pc.dead)
    (h : Run c evs c') (hf : AllFinished c') :
    (∃ u : Nat, c'.pcs[u]? = some Pc.dead) ∧ outcome c'.pcs = some true := by
  have h1 : 0 < c.pcs.countP isGone := by
    rcases hgone with e | e <;> exact List.countP_pos_iff.2 ⟨_, List.mem_of_getElem? e, rfl⟩
  obtain ⟨pc, hm, hg⟩ := List.countP_pos_iff.1 (Nat.lt_of_lt_of_le h1 (gone_mono h))
  -- a lost worker of a finished configuration is dead
  have hd : Pc.dead ∈ c'.pcs := by
    rcases allFinished_iff.1 hf pc hm with rfl | rfl
    · cases hg
    · exact hm
  exact ⟨List.mem_iff_getElem?.1 hd, outcome_true_of_finished (allFinished_iff.1 hf) hd⟩

theorem terminates_failure (W : ν → Nat) (hW : Budget W) {root : ν} {top T s : Nat} {c : Cfg ν σ}
    {evs0 : List Ev} {t : Nat} (hT : 0 < T) (h0 : Run (init root top T) evs0 c)
    (hs : wakeEvents evs0 ≤ s) (hgone : c.pcs[t]? = some Pc.dying ∨ c.pcs[t]? = some Pc.dead) :
    ∀ (evs : List Ev) (c' : Cfg ν σ), Run c evs c' → WakeFree evs →
      ∃ (evs' : List Ev) (c'' : Cfg ν σ), Run c' evs' c'' ∧ WakeFree evs' ∧ AllFinished c'' ∧
        evs.length + evs'.length ≤ W root + 3 * T + 3 * (T * T + s) ∧
        outcome c''.pcs = some true := by
  intro evs c' h hwf
  obtain ⟨evs', c'', h', hwf', hf, hle⟩ := wakefree_extend W hW hT h0 hs evs c' h hwf
  have hr : Reach root top T c := reach_iff_run.2 ⟨_, h0⟩
  exact ⟨evs', c'', h', hwf', hf, hle, (finished_after_failure hr hgone (h.append h') hf).2⟩

theorem no_panic_no_gone {root : ν} {top T : Nat} {c : Cfg ν σ}
    (hnp : ∀ n, Desc n root → isPanic (Solver.res n) = false) (hr : Reach root top T c) :
    ∀ (t : Nat) (pc : Pc ν), c.pcs[t]? = some pc → isGone pc = false := by
  obtain ⟨st, g, hg⟩ := reach_reachG hr
  intro t pc hpc
  cases hgo : isGone pc with
  | false => rfl
  | true =>
    -- a failed subproblem has been generated, so it lies below the root
    have hpos : 0 < g.failed.length := by
      rw [← (ghost_stats hg).panicked, reachS_pinv (reachG_reachS hg)]
      exact List.countP_pos_iff.2 ⟨pc, List.mem_of_getElem? hpc, hgo⟩
    obtain ⟨n, hn⟩ := List.exists_mem_of_length_pos hpos
    have hgen : n ∈ g.gen := (ainv_iff.1 (reachG_ainv hg)).mem_iff.2
      (List.mem_append_left _ (List.mem_append_right _ hn))
    exact absurd ((reachG_gres hg).failed n hn) (by rw [hnp n (gen_desc hg n hgen)]; decide)

/-- where no subproblem fails, a finished search has lost no worker -/
theorem allDone_of_finished {root : ν} {top T : Nat} {c : Cfg ν σ}
    (hnp : ∀ n, Desc n root → isPanic (Solver.res n) = false) (hr : Reach root top T c)
    (hf : AllFinished c) : AllDone c := fun t pc hpc =>
  (hf t pc hpc).resolve_right fun e => by
    have := no_panic_no_gone hnp hr t pc hpc
    rw [e] at this; cases this

theorem terminates_done (W : ν → Nat) (hW : Budget W) {root : ν} {top T s : Nat} {c : Cfg ν σ}
    {evs0 : List Ev} (hT : 0 < T) (h0 : Run (init root top T) evs0 c) (hs : wakeEvents evs0 ≤ s)
    (hnp : ∀ n, Desc n root → isPanic (Solver.res n) = false) :
    ∀ (evs : List Ev) (c' : Cfg ν σ), Run c evs c' → WakeFree evs →
      ∃ (evs' : List Ev) (c'' : Cfg ν σ), Run c' evs' c'' ∧ WakeFree evs' ∧ AllDone c'' ∧
        evs.length + evs'.length ≤ W root + 3 * T + 3 * (T * T + s) ∧
        outcome c''.pcs = some false := by
  intro evs c' h hwf
  obtain ⟨evs', c'', h', hwf', hf, hle⟩ := wakefree_extend W hW hT h0 hs evs c' h hwf
  have hd := allDone_of_finished hnp (reach_iff_run.2 ⟨_, (h0.append h).append h'⟩) hf
  exact ⟨evs', c'', h', hwf', hd, hle, (outcome_false_iff_allDone c'').2 hd⟩

/-- from the start: the empty history and the empty continuation in `terminates_done` -/
theorem terminates_done_init (W : ν → Nat) (hW : Budget W) {root : ν} (top : Nat) {T : Nat}
    (hT : 0 < T) (hnp : ∀ n, Desc n root → isPanic (Solver.res n) = false) :
    ∃ (evs : List Ev) (c : Cfg ν σ), Run (init root top T) evs c ∧ WakeFree evs ∧ AllDone c ∧
      evs.length ≤ W root + 3 * T + 3 * (T * T) ∧ outcome c.pcs = some false := by
  obtain ⟨evs, c, h, hwf, hd, hle, hout⟩ :=
    terminates_done W hW hT (.nil _) (Nat.le_refl 0) hnp [] _ (.nil _) wakeFree_nil
  exact ⟨evs, c, h, hwf, hd, by rwa [List.length_nil, Nat.zero_add] at hle, hout⟩

section Example5
/-- three-node tree: node 0 is infeasible (bound 7) with children 1 and 2; node 1 is feasible with
    score 7; node 2 has no solution -/
local instance exSolver5 : Solver Nat Unit :=
  ⟨fun n => match n with | 0 => .infeasible 7 | 1 => .feasible () 7 | _ => .noSol,
   fun n => match n with | 0 => [1, 2] | _ => []⟩

def exW5 : Nat → Nat := fun n => if n = 0 then 15 else 5

theorem exBudget5 : Budget (ν := Nat) exW5 := by
  refine ⟨fun n => ?_⟩
  match n with
  | 0 => simp [exW5, pushed, Solver.res, Solver.kids]
  | 1 => simp [exW5, pushed, Solver.res]
  | n + 2 => simp [exW5, pushed, Solver.res]

/-- thread 0 has popped the root and is solving it; thread 1 found the queue empty, went to sleep
    and was woken spuriously -/
def exC5 : Cfg Nat Unit :=
  { pending := [], busy := 1, best := none, bestScore := 0, lock := none,
    pcs := [.solving 0, .want none] }

theorem exRun5 : Run (init 0 10 2) [.acquire 0, .top 0 0, .acquire 1, .top 1 0, .wake 1] exC5 := by
  iterate 5 refine Run.cons rfl ?_
  exact Run.nil _

/-- `terminates` at `exC5` (`T = 2`, `s = 1`, `W root = 15`): the bound is
    `15 + 3 * 2 + 3 * (2 * 2 + 1) = 36` -/
example :
    (∃ (evs : List Ev) (c' : Cfg Nat Unit), Run exC5 evs c' ∧ WakeFree evs ∧ AllFinished c' ∧
        evs.length ≤ 36) ∧
    (∀ (evs : List Ev) (c' : Cfg Nat Unit), Run exC5 evs c' → WakeFree evs →
      ∃ (evs' : List Ev) (c'' : Cfg Nat Unit), Run c' evs' c'' ∧ WakeFree evs' ∧ AllFinished c'' ∧
        evs.length + evs'.length ≤ 36) :=
  terminates exW5 exBudget5 (s := 1) (by decide) exRun5 (by decide)

/-- one such finishing run, explicitly (15 events, none of them a wake-up): both workers end `done`
    with the optimum 7 -/
example : ∃ c' : Cfg Nat Unit, Run exC5
    [.solve 0, .acquire 0, .after 0, .top 0 0, .acquire 1, .top 1 0, .solve 0, .solve 1, .acquire 0,
     .after 0, .top 0 0, .acquire 1, .after 1, .acquire 0, .top 0 0] c' ∧
    AllDone c' ∧ c'.bestScore = 7 ∧ outcome c'.pcs = some false := by
  refine ⟨{ pending := [], busy := 0, best := some (), bestScore := 7, lock := none,
            pcs := [.done, .done] }, ?_, allDone_iff.2 (by simp), rfl, rfl⟩
  iterate 15 refine Run.cons rfl ?_
  exact Run.nil _

/-- the tree has no failing subproblem, so (`terminates_done`) every wake-free run from `exC5`
    extends to one in which both workers return normally -/
example : ∀ (evs : List Ev) (c' : Cfg Nat Unit), Run exC5 evs c' → WakeFree evs →
    ∃ (evs' : List Ev) (c'' : Cfg Nat Unit), Run c' evs' c'' ∧ WakeFree evs' ∧ AllDone c'' ∧
      evs.length + evs'.length ≤ 36 ∧ outcome c''.pcs = some false :=
  terminates_done exW5 exBudget5 (s := 1) (by decide) exRun5 (by decide)
    (by
      intro n _
      match n with
      | 0 => rfl
      | 1 => rfl
      | n + 2 => rfl)

/-- the run to `exC5` with its wake-up attributed: the `wake 1` is spurious (no `notify_one` has
    been issued yet), so `spurious = 1`, and `nrun_bound` applies with `sp = 1` -/
example : NRun (init 0 10 2) 0
    [(.acquire 0, false), (.top 0 0, false), (.acquire 1, false), (.top 1 0, false), (.wake 1, false)]
    exC5 0 := by
  iterate 5 refine NRun.cons (NStep.plain rfl) ?_
  exact NRun.nil _ _
end Example5

section Example6
/-- three-node tree with a failing subproblem: node 0 is infeasible (bound 7) with children 1 and 2;
    the solver panics on node 1; node 2 is feasible with score 5 -/
local instance exSolver6 : Solver Nat Unit :=
  ⟨fun n => match n with | 0 => .infeasible 7 | 1 => .panic | _ => .feasible () 5,
   fun n => match n with | 0 => [1, 2] | _ => []⟩

theorem exBudget6 : Budget (ν := Nat) exW5 := by
  refine ⟨fun n => ?_⟩
  match n with
  | 0 => simp [exW5, pushed, Solver.res, Solver.kids]
  | 1 => simp [exW5, pushed, Solver.res]
  | n + 2 => simp [exW5, pushed, Solver.res]

/-- thread 0 has solved the root, popped node 1, its solver panicked and the panic has been
    registered (`dying`); node 2 is still in the queue; thread 1 has not done anything yet -/
def exC6 : Cfg Nat Unit :=
  { pending := [(2, 7)], busy := 0, best := none, bestScore := 0, lock := none,
    pcs := [.dying, .want none] }

theorem exRun6 : Run (init 0 10 2)
    [.acquire 0, .top 0 0, .solve 0, .acquire 0, .after 0, .top 0 0, .solve 0, .acquire 0] exC6 := by
  iterate 8 refine Run.cons rfl ?_
  exact Run.nil _

/-- `terminates_failure` at `exC6` (`T = 2`, `s = 0`): the bound is `15 + 3 * 2 + 3 * (2 * 2 + 0) = 33` -/
example : ∀ (evs : List Ev) (c' : Cfg Nat Unit), Run exC6 evs c' → WakeFree evs →
    ∃ (evs' : List Ev) (c'' : Cfg Nat Unit), Run c' evs' c'' ∧ WakeFree evs' ∧ AllFinished c'' ∧
      evs.length + evs'.length ≤ 33 ∧ outcome c''.pcs = some true :=
  terminates_failure exW5 exBudget6 (s := 0) (t := 0) (by decide) exRun6 (by decide) (Or.inl rfl)

/-- one such run, explicitly: thread 0 dies, thread 1 solves the remaining node 2 and returns; the
    join loop meets the dead worker first -/
example : ∃ c' : Cfg Nat Unit, Run exC6
    [.die 0, .acquire 1, .top 1 0, .solve 1, .acquire 1, .after 1] c' ∧
    AllFinished c' ∧ c'.pcs = [.dead, .done] ∧ outcome c'.pcs = some true := by
  refine ⟨{ pending := [], busy := 0, best := some (), bestScore := 5, lock := none,
            pcs := [.dead, .done] }, ?_, allFinished_iff.2 (by simp), rfl, rfl⟩
  iterate 6 refine Run.cons rfl ?_
  exact Run.nil _
end Example6

section Example7
local instance exSolver7 : Solver Unit Unit := ⟨fun _ => .noSol, fun _ => []⟩

/-- thread 0 is solving the root (and is never scheduled again); thread 1 wants the lock -/
def exA7 : Cfg Unit Unit :=
  { pending := [], busy := 1, best := none, bestScore := 0, lock := none,
    pcs := [.solving (), .want none] }
/-- thread 1 holds the lock -/
def exB7 : Cfg Unit Unit := { exA7 with lock := some 1, pcs := [.solving (), .holding] }
/-- thread 1 sleeps -/
def exC7 : Cfg Unit Unit := { exA7 with pcs := [.solving (), .waiting] }

/-- thread 1 takes the lock, finds the queue empty, goes to sleep, is woken spuriously, … -/
def exF7 (i : Nat) : Cfg Unit Unit := match i % 3 with | 0 => exA7 | 1 => exB7 | _ => exC7
def exE7 (i : Nat) : Ev := match i % 3 with | 0 => .acquire 1 | 1 => .top 1 0 | _ => .wake 1

theorem exReach7 : Reach () 0 2 (exF7 0) :=
  reach_iff_run.2 ⟨[.acquire 0, .top 0 0], Run.cons rfl (Run.cons rfl (Run.nil _))⟩

/-- the hypotheses of `infinite_run_wakes` are satisfiable, and "finitely many `wake` events"
    cannot be dropped from the termination theorems: with a spurious wake-up every third step (and
    an unfair scheduler that never lets thread 0 finish its subproblem) the run is infinite -/
theorem exInf7 : InfRun exF7 exE7 := by
  intro i
  have h3 : i % 3 < 3 := Nat.mod_lt _ (by decide)
  unfold exF7 exE7
  rw [Nat.add_mod i 1 3]
  generalize i % 3 = r at *
  match r, h3 with
  | 0, _ => rfl
  | 1, _ => rfl
  | 2, _ => rfl

example : ∀ N, ∃ i, N ≤ i ∧ (exE7 i).isWake = true :=
  infinite_run_wakes (fun _ => 5) ⟨fun _ => by simp [pushed, Solver.res]⟩ exReach7 exInf7
end Example7

#print axioms continuation_bound
#print axioms wakefree_bound
#print axioms wakefree_bound_local
#print axioms wakefree_maximal_finished
#print axioms wakefree_maximal_iff
#print axioms wakefree_extend
#print axioms terminates
#print axioms terminates_reach
#print axioms wakefree_progress
#print axioms infinite_run_wakes
#print axioms nrun_bound
#print axioms infinite_run_spurious
#print axioms finished_after_failure
#print axioms terminates_failure
#print axioms terminates_done

end Eng3
