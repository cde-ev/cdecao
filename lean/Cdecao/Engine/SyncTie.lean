import Cdecao.Model.SyncConstants
import Cdecao.Engine.Core
/-! # Structural tie of the engine model to bab.rs: the synchronisation skeleton

The transition system `Eng3.step?` (Engine/Core.lean) was written against this shape of bab.rs:

* ALL shared state — the queue, the busy counter, the incumbent, its score, the statistics — lives
  in one `struct SharedState` behind ONE `Mutex`; there is one `Condvar`; nothing else is shared
  (no atomics, no second lock, no timed or conditional waits, no channels, no `unsafe`);
* the synchronisation operations occur in the source in this order: `solve` spawns the workers and
  joins them; `worker` takes the lock once at the top (`acquire` at `want none`), gives it up
  around the node solver call (`solve` events run outside the lock) and re-takes it afterwards
  (`acquire` at `want (some n)`, which applies the result and leads to the `after` check); on the
  failure path (`catch_unwind` … `lock`, `notify_all`, `resume_unwind`) that `acquire` only gives
  the busy count back and the `notify_all` is the `die` event;
  `notify_one` per pushed child beyond the first, `notify_all` at the finished-check, `wait` when
  there is nothing to pop.

`bin/gen_constants.py` re-extracts the skeleton from /repo/src/bab.rs on every run into
`Const.BAB_*`; `sync_tie` below compares it with the one recorded here (`solveWiring`, the wiring of
`caobab::solve`, is recorded here too and compared in Props/EngineTie.lean, `solve_wiring_tie`). A
change that moves the busy counter into an atomic, adds a lock-free path or a second lock, or
reorders / adds / removes a synchronisation operation changes the generated constants and this
file no longer checks: the model is then no longer known to describe the code (the scheduler shim switches threads only at `lock`,
`wait` and `join`, so it could not exhibit an interleaving inside such a lock-free path). -/
namespace Eng3

def sharedFields : List String := ["pending_nodes", "busy_threads", "best_result", "best_score", "statistics"]
/-- the types of the shared fields: the queue is a `BinaryHeap` — a multiset of pending entries (two
    entries that compare equal are both kept), which is how `Cfg.pending` models it -/
def sharedTypes : List String :=
  ["BinaryHeap<PendingProblem<SubProblem, Score>>", "u32", "Option<Solution>", "Score", "Statistics"]
def syncImports : List String := ["Arc", "Condvar", "Mutex"]
def syncOps : List String :=
  ["spawn", "join",                                   -- solve: start the workers, join them in order
   "lock",                                            -- worker: `acquire` at `want none`
   "catch_unwind", "lock", "notify_all", "resume_unwind",   -- failing node solver: `acquire` of a panic, `die`
   "lock",                                            -- after the node solver returned: `acquire` at `want (some n)`
   "notify_one",                                      -- per pushed child beyond the first
   "notify_all",                                      -- finished-check
   "wait"]                                            -- nothing to pop

/-- the wiring of `caobab::solve`, token by token (parameter list and body, comments stripped): the
    parameters `rooms`, `report_no_solution`, `num_threads`; `let … = precompute_problem(…, rooms)`;
    `bab::solve(` closure → `run_bab_node(…, report_no_solution)`, root `BABNode { … }` (the return
    type names `BABNode` first), `num_threads )`. The caobab-level theorems are about the engine
    instantiated with exactly this solver (`N2.solverOf`): the node solver is `run_bab_node` on the
    precomputed problem and nothing else, the worker count reaches only the engine -/
def solveWiring : List String :=
  ["rooms", "report_no_solution", "num_threads", "let", "precompute_problem", "rooms", "bab::solve", "BABNode",
   "run_bab_node", "report_no_solution", "BABNode", "num_threads"]

theorem sync_tie :
    Const.BAB_SHARED_FIELDS = sharedFields ∧ Const.BAB_SYNC_IMPORTS = syncImports ∧
    Const.BAB_SYNC_OPS = syncOps ∧ Const.BAB_SYNC_OTHER = [] ∧ Const.BAB_SHARED_TYPES = sharedTypes :=
  ⟨rfl, rfl, rfl, rfl, rfl⟩

end Eng3
