/-! The worker loop of bab.rs as a micro-step transition system (`step?`), its reading as a relation
    (`Step`, `Move`), and the statistics counters computed alongside (`statsUpd`). -/
namespace Eng3

inductive Res (σ : Type) where
  | noSol
  | infeasible (score : Nat)
  | feasible (sol : σ) (score : Nat)
  | panic                                  -- the node solver panicked (C19)

def isPanic {σ : Type} : Res σ → Bool
  | .panic => true
  | _ => false

theorem isPanic_eq_false_iff {σ : Type} {r : Res σ} : isPanic r = false ↔ r ≠ .panic := by
  cases r <;> simp [isPanic]

/-- what the engine needs to know about a subproblem: the verdict of the node solver on it and the
    children it returns (bab.rs `NodeResult`). Any terminating or non-terminating solver fits. -/
class Solver (ν : Type) (σ : outParam Type) where
  res : ν → Res σ
  kids : ν → List ν

variable {ν σ : Type} [Solver ν σ]

/-- the children the engine pushes when it processes the node -/
def pushed (t : ν) : List ν :=
  match Solver.res t with
  | .infeasible _ => Solver.kids t
  | _ => []

theorem pushed_of_infeasible {t : ν} {sc : Nat} (h : Solver.res t = .infeasible sc) :
    pushed t = Solver.kids t := by
  simp only [pushed, h]

theorem mem_pushed {k t : ν} : k ∈ pushed t ↔ ∃ sc, Solver.res t = .infeasible sc ∧ k ∈ Solver.kids t := by
  cases hr : Solver.res t <;> simp [pushed, hr]

inductive Pc (ν : Type) where
  | want (r : Option (ν))   -- blocked in lock(); `some n`: has the result of n in hand
  | holding                       -- holds the lock, at loop top
  | afterPop                      -- holds the lock, at the "are we finished?" check
  | solving (n : ν)          -- outside the lock, running node_solver
  | waiting                       -- blocked in condvar.wait
  | done
  | dying                         -- solver panicked; busy already decremented, about to notify_all
  | dead                          -- thread ended by the panic

structure Cfg (ν σ : Type) where
  pending : List (ν × Nat)
  busy : Nat
  best : Option σ
  bestScore : Nat
  lock : Option Nat
  pcs : List (Pc ν)

inductive Ev where
  | acquire (t : Nat)
  | top (t : Nat) (k : Nat)
  | after (t : Nat)
  | solve (t : Nat)
  | wake (t : Nat)
  | die (t : Nat)

def setPc (c : Cfg ν σ) (t : Nat) (pc : Pc ν) : Cfg ν σ := { c with pcs := c.pcs.set t pc }

def wakeAll (pcs : List (Pc ν)) : List (Pc ν) :=
  pcs.map fun pc => match pc with | .waiting => .want none | pc => pc

/-- apply a node result under the lock (bab.rs:272-316) -/
def applyRes (c : Cfg ν σ) (n : ν) : Cfg ν σ :=
  let c := { c with busy := c.busy - 1 }
  match Solver.res n with
  | .noSol => c
  | .feasible sol sc =>
    if c.best = none ∨ sc > c.bestScore then { c with best := some sol, bestScore := sc } else c
  | .infeasible sc => { c with pending := (Solver.kids n).map (fun k => (k, sc)) ++ c.pending }
  | .panic => c

def step? (c : Cfg ν σ) : Ev → Option (Cfg ν σ)
  | .acquire t =>
    match c.lock, c.pcs[t]? with
    | none, some (.want none) => some { (setPc c t .holding) with lock := some t }
    | none, some (.want (some n)) =>
      if isPanic (Solver.res n) then
        -- bab.rs (after the C19 fix): lock, busy_threads -= 1, unlock — the notify_all follows
        some (setPc { c with busy := c.busy - 1 } t .dying)
      else some { (setPc (applyRes c n) t .afterPop) with lock := some t }
    | _, _ => none
  | .top t k =>
    match c.pcs[t]? with
    | some .holding =>
      match c.pending[k]? with
      | some (n, ps) =>
        let c := { c with pending := c.pending.eraseIdx k }
        if c.best = none ∨ ps > c.bestScore then
          some { (setPc c t (.solving n)) with busy := c.busy + 1, lock := none }
        else some (setPc c t .afterPop)
      | none =>
        if c.pending = [] then
          if c.busy > 0 then some { (setPc c t .waiting) with lock := none }
          else some { (setPc c t .done) with lock := none }
        else none
    | _ => none
  | .after t =>
    match c.pcs[t]? with
    | some .afterPop =>
      if c.pending = [] ∧ c.busy = 0 then
        some { c with pcs := (wakeAll c.pcs).set t .done, lock := none }
      else some (setPc c t .holding)
    | _ => none
  | .solve t =>
    match c.pcs[t]? with
    | some (.solving n) => some (setPc c t (.want (some n)))
    | _ => none
  | .wake t =>
    match c.pcs[t]? with
    | some .waiting => some (setPc c t (.want none))
    | _ => none
  | .die t =>
    match c.pcs[t]? with
    | some .dying => some { c with pcs := (wakeAll c.pcs).set t .dead }
    | _ => none

def init (root : ν) (top : Nat) (T : Nat) : Cfg ν σ :=
  { pending := [(root, top)], busy := 0, best := none, bestScore := 0, lock := none,
    pcs := List.replicate T (.want none) }

inductive Reach (root : ν) (top T : Nat) : Cfg ν σ → Prop where
  | init : Reach root top T (init root top T)
  | step : Reach root top T c → step? c ev = some c' → Reach root top T c'

inductive Desc : ν → ν → Prop where
  | refl (t : ν) : Desc t t
  | step {f k t : ν} : k ∈ pushed t → Desc f k → Desc f t

def IsFeas (f : ν) (sc : Nat) : Prop := ∃ sol, Solver.res f = .feasible sol sc

/-- bound property: the score of an inner node bounds all feasible scores below it -/
def Bounded (root : ν) : Prop :=
  ∀ n, Desc n root → ∀ s, Solver.res n = .infeasible s → ∀ k ∈ Solver.kids n, ∀ f sc, Desc f k → IsFeas f sc → sc ≤ s

theorem desc_trans {a b c : ν} (h1 : Desc a b) (h2 : Desc b c) : Desc a c := by
  induction h2 with
  | refl => exact h1
  | step hk _ ih => exact Desc.step hk ih

theorem desc_cases {f n : ν} (h : Desc f n) : f = n ∨ ∃ k ∈ pushed n, Desc f k := by
  cases h with
  | refl => exact Or.inl rfl
  | step hk hd => exact Or.inr ⟨_, hk, hd⟩

theorem Desc.inv {Inv : ν → Prop} (hstep : ∀ t, Inv t → ∀ k ∈ pushed t, Inv k) {f t : ν}
    (hd : Desc f t) : Inv t → Inv f := by
  induction hd with
  | refl => exact id
  | step hk _ ih => exact fun ht => ih (hstep _ ht _ hk)

theorem lt_of_getElem?_some {α : Type} {l : List α} {i : Nat} {a : α} (h : l[i]? = some a) : i < l.length :=
  (List.getElem?_eq_some_iff.1 h).1

theorem mem_of_mem_eraseIdx' {α : Type} {l : List α} {k : Nat} {x : α} (hx : x ∈ l.eraseIdx k) : x ∈ l :=
  List.mem_of_mem_eraseIdx hx

section set
variable {α : Type} {l : List α} {t u : Nat} {old new a : α}

/-- replacing one entry: the list fact behind every count, sum and multiset over the pcs -/
theorem set_perm (h : l[t]? = some old) (new : α) : (old :: l.set t new).Perm (new :: l) := by
  induction l generalizing t with
  | nil => cases h
  | cons x xs ih =>
    cases t with
    | zero => cases h; exact .swap ..
    | succ t => exact (List.Perm.swap ..).trans (((ih h).cons x).trans (.swap ..))

theorem getElem?_set_self_of (hp : l[t]? = some old) : (l.set t new)[t]? = some new := by
  simp [lt_of_getElem?_some hp]

theorem getElem?_set_keep (hp : l[t]? = some old) (ha : l[u]? = some a) (hne : a ≠ old) :
    (l.set t new)[u]? = some a := by
  have : t ≠ u := by rintro rfl; exact hne (Option.some.inj (ha.symm.trans hp))
  rw [List.getElem?_set_ne this, ha]

theorem getElem?_set_of (h : (l.set t new)[u]? = some a) :
    (u = t ∧ a = new) ∨ (u ≠ t ∧ l[u]? = some a) := by
  by_cases e : t = u
  · subst e
    rw [List.getElem?_set_self (by simpa using lt_of_getElem?_some h)] at h
    exact .inl ⟨rfl, (Option.some.inj h).symm⟩
  · rw [List.getElem?_set_ne e] at h; exact .inr ⟨Ne.symm e, h⟩

theorem countP_set_of_getElem? (p : α → Bool) (h : l[t]? = some old) (new : α) :
    (l.set t new).countP p + (if p old then 1 else 0) = l.countP p + (if p new then 1 else 0) := by
  have := (set_perm h new).countP_eq p
  simp only [List.countP_cons] at this
  omega

theorem countP_set_same {p : α → Bool} (h : l[t]? = some old) (he : p new = p old) :
    (l.set t new).countP p = l.countP p := by
  have := countP_set_of_getElem? p h new
  rw [he] at this; omega

theorem forall_getElem?_iff {P : α → Prop} : (∀ (i : Nat) a, l[i]? = some a → P a) ↔ ∀ a ∈ l, P a :=
  ⟨fun h a hm => (List.mem_iff_getElem?.1 hm).elim fun i hi => h i a hi,
    fun h _ a hi => h a (List.mem_of_getElem? hi)⟩

theorem eraseIdx_perm {k : Nat} (h : l[k]? = some a) : l.Perm (a :: l.eraseIdx k) := by
  induction l generalizing k with
  | nil => cases h
  | cons x xs ih =>
    cases k with
    | zero => cases h; exact .refl _
    | succ k => exact ((ih h).cons x).trans (.swap ..)
end set

theorem wakeAll_getElem? (pcs : List (Pc ν)) (u : Nat) :
    (wakeAll pcs)[u]? = (pcs[u]?).map (fun pc => match pc with | .waiting => .want none | pc => pc) := by
  simp [wakeAll]

@[simp] theorem length_wakeAll (pcs : List (Pc ν)) : (wakeAll pcs).length = pcs.length :=
  List.length_map ..

/-- a count that does not tell a sleeper from a thread that wants the lock is blind to `notify_all` -/
theorem countP_wakeAll (p : Pc ν → Bool) (h : p .waiting = p (.want none)) (pcs : List (Pc ν)) :
    (wakeAll pcs).countP p = pcs.countP p := by
  simp only [wakeAll, List.countP_map]
  congr 1
  funext pc
  cases pc <;> first | rfl | exact h.symm

theorem wakeAll_getElem?_of {pcs : List (Pc ν)} {t : Nat} {pc : Pc ν} (h : pcs[t]? = some pc)
    (hw : pc ≠ .waiting) : (wakeAll pcs)[t]? = some pc := by
  rw [wakeAll_getElem?, h]
  cases pc <;> first | rfl | exact absurd rfl hw

theorem of_wakeAll_getElem? {pcs : List (Pc ν)} {t : Nat} {pc : Pc ν} (h : (wakeAll pcs)[t]? = some pc) :
    pc ≠ .waiting ∧ (pc = .want none ∨ pcs[t]? = some pc) := by
  rw [wakeAll_getElem?] at h
  cases hq : pcs[t]? with
  | none => rw [hq] at h; cases h
  | some q => rw [hq] at h; cases q <;> cases h <;> simp

/-- the three things a node result can do to the shared state: nothing, a new incumbent, new work -/
inductive Applied (c : Cfg ν σ) (n : ν) : Cfg ν σ → Prop
  | keep (hpush : pushed n = [])
      (hno : ∀ sol sc, Solver.res n = .feasible sol sc → ¬ (c.best = none ∨ sc > c.bestScore)) :
      Applied c n { c with busy := c.busy - 1 }
  | improve {sol sc} (hr : Solver.res n = .feasible sol sc) (hgt : c.best = none ∨ sc > c.bestScore) :
      Applied c n { c with busy := c.busy - 1, best := some sol, bestScore := sc }
  | branch {sc} (hr : Solver.res n = .infeasible sc) :
      Applied c n { c with busy := c.busy - 1,
                           pending := (Solver.kids n).map (fun k => (k, sc)) ++ c.pending }

theorem applied (c : Cfg ν σ) (n : ν) : Applied c n (applyRes c n) := by
  fun_cases applyRes c n
  case case1 h => exact .keep (by simp [pushed, h]) (by simp [h])
  case case2 h hgt => exact .improve h hgt
  case case3 h hgt => exact .keep (by simp [pushed, h]) (by intro _ _ e; cases h.symm.trans e; exact hgt)
  case case4 h => exact .branch h
  case case5 h => exact .keep (by simp [pushed, h]) (by simp [h])

theorem Applied.eq {c c₁ : Cfg ν σ} {n : ν} (h : Applied c n c₁) : c₁ = applyRes c n := by
  unfold applyRes
  cases h with
  | keep hpush hno =>
    split
    · rfl
    next sol sc hr => simp only [if_neg (hno sol sc hr)]
    next sc hr => simp only [pushed, hr] at hpush; simp only [hpush, List.map_nil, List.nil_append]
    · rfl
  | improve hr hgt => simp only [hr, if_pos hgt]
  | branch hr => simp only [hr]

theorem Applied.frame {c c₁ : Cfg ν σ} {n : ν} (h : Applied c n c₁) :
    c₁.pcs = c.pcs ∧ c₁.lock = c.lock ∧ c₁.busy = c.busy - 1 := by
  cases h <;> exact ⟨rfl, rfl, rfl⟩

theorem applyRes_pcs (c : Cfg ν σ) (n : ν) : (applyRes c n).pcs = c.pcs := (applied c n).frame.1

/-- `step?` read as a relation: one constructor per branch, the successor written out field by field -/
inductive Step (c : Cfg ν σ) : Ev → Cfg ν σ → Prop
  | acquireIdle {t} (hl : c.lock = none) (hp : c.pcs[t]? = some (.want none)) :
      Step c (.acquire t) { c with pcs := c.pcs.set t .holding, lock := some t }
  | acquirePanic {t n} (hl : c.lock = none) (hp : c.pcs[t]? = some (.want (some n)))
      (hr : isPanic (Solver.res n) = true) :
      Step c (.acquire t) { c with busy := c.busy - 1, pcs := c.pcs.set t .dying }
  | acquireApply {t n c₁} (hl : c.lock = none) (hp : c.pcs[t]? = some (.want (some n)))
      (hr : isPanic (Solver.res n) = false) (ha : Applied c n c₁) :
      Step c (.acquire t) { c₁ with pcs := c.pcs.set t .afterPop, lock := some t }
  | topSolve {t k n ps} (hp : c.pcs[t]? = some .holding) (hk : c.pending[k]? = some (n, ps))
      (hgt : c.best = none ∨ ps > c.bestScore) :
      Step c (.top t k) { c with pending := c.pending.eraseIdx k, busy := c.busy + 1, lock := none,
                                 pcs := c.pcs.set t (.solving n) }
  | topBound {t k n ps} (hp : c.pcs[t]? = some .holding) (hk : c.pending[k]? = some (n, ps))
      (hle : ¬ (c.best = none ∨ ps > c.bestScore)) :
      Step c (.top t k) { c with pending := c.pending.eraseIdx k, pcs := c.pcs.set t .afterPop }
  | topWait {t k} (hp : c.pcs[t]? = some .holding) (he : c.pending = []) (hb : c.busy > 0) :
      Step c (.top t k) { c with pcs := c.pcs.set t .waiting, lock := none }
  | topDone {t k} (hp : c.pcs[t]? = some .holding) (he : c.pending = []) (hb : c.busy = 0) :
      Step c (.top t k) { c with pcs := c.pcs.set t .done, lock := none }
  | afterFinish {t} (hp : c.pcs[t]? = some .afterPop) (he : c.pending = []) (hb : c.busy = 0) :
      Step c (.after t) { c with pcs := (wakeAll c.pcs).set t .done, lock := none }
  | afterContinue {t} (hp : c.pcs[t]? = some .afterPop) (hne : ¬ (c.pending = [] ∧ c.busy = 0)) :
      Step c (.after t) { c with pcs := c.pcs.set t .holding }
  | solve {t n} (hp : c.pcs[t]? = some (.solving n)) :
      Step c (.solve t) { c with pcs := c.pcs.set t (.want (some n)) }
  | wake {t} (hp : c.pcs[t]? = some .waiting) :
      Step c (.wake t) { c with pcs := c.pcs.set t (.want none) }
  | die {t} (hp : c.pcs[t]? = some .dying) :
      Step c (.die t) { c with pcs := (wakeAll c.pcs).set t .dead }

theorem step_of_step? {c c' : Cfg ν σ} {ev : Ev} (hs : step? c ev = some c') : Step c ev c' := by
  revert hs
  -- one goal per branch of `step?` with the guards of the branch; those that return `none` go
  fun_cases step? c ev <;> intro hs <;> cases hs
  case case1 hp hl => exact .acquireIdle hl hp
  case case2 hp hl hr => exact .acquirePanic hl hp hr
  case case3 n hp hl hr =>
    have := Step.acquireApply hl hp (Bool.eq_false_iff.2 hr) (applied c n)
    rwa [← applyRes_pcs c n] at this
  case case5 hp n ps hk _ hgt => exact .topSolve hp hk hgt
  case case6 hp n ps hk _ hle => exact .topBound hp hk hle
  case case7 hp _ he hb => exact .topWait hp he hb
  case case8 hp _ he hb => exact .topDone hp he (Nat.eq_zero_of_not_pos hb)
  case case11 hp h => exact .afterFinish hp h.1 h.2
  case case12 hp h => exact .afterContinue hp h
  case case14 hp => exact .solve hp
  case case16 hp => exact .wake hp
  case case18 hp => exact .die hp

theorem step?_eq_some_iff {c c' : Cfg ν σ} {ev : Ev} : step? c ev = some c' ↔ Step c ev c' := by
  refine ⟨step_of_step?, fun h => ?_⟩
  cases h with
  | acquireApply hl hp hr ha => cases ha.eq; simp [step?, hl, hp, hr, setPc, applyRes_pcs]
  | topBound hp hk hle => simp only [step?, hp, hk, if_neg hle, setPc]
  | afterContinue hp hne => simp only [step?, hp, if_neg hne, setPc]
  | _ => simp [step?, setPc, *]

def Ev.thread : Ev → Nat
  | .acquire t | .top t _ | .after t | .solve t | .wake t | .die t => t

/-- the event a thread at `pc` performs next; `k` is the heap's choice, read only at the loop top -/
def pcEv (t k : Nat) : Pc ν → Option Ev
  | .want _ => some (.acquire t)
  | .holding => some (.top t k)
  | .afterPop => some (.after t)
  | .solving _ => some (.solve t)
  | .waiting => some (.wake t)
  | .dying => some (.die t)
  | _ => none

def isStopped : Pc ν → Bool
  | .done => true
  | .dead => true
  | _ => false

omit [Solver ν σ] in
theorem pcEv_alive {t k : Nat} {pc : Pc ν} {ev : Ev} (h : pcEv t k pc = some ev) : isStopped pc = false := by
  cases pc <;> first | rfl | cases h

/-- a step is taken by the thread the event names, at the pc that event belongs to, and rewrites
    that thread's pc only (a `notify_all`, by a thread that is not asleep itself, besides turns every
    `waiting` into `want none`) -/
theorem Step.shape {c c' : Cfg ν σ} {ev : Ev} (hs : Step c ev c') :
    ∃ old k new, c.pcs[ev.thread]? = some old ∧ pcEv ev.thread k old = some ev ∧
      (c'.pcs = c.pcs.set ev.thread new ∨
        (old ≠ .waiting ∧ c'.pcs = (wakeAll c.pcs).set ev.thread new)) := by
  cases hs with
  | @topSolve _ k | @topBound _ k | @topWait _ k | @topDone _ k => exact ⟨_, k, _, ‹_›, rfl, .inl rfl⟩
  | acquireApply _ hp _ ha => exact ⟨_, 0, _, hp, rfl, .inl rfl⟩
  | afterFinish hp | die hp => exact ⟨_, 0, _, hp, rfl, .inr ⟨nofun, rfl⟩⟩
  | _ => exact ⟨_, 0, _, ‹_›, rfl, .inl rfl⟩

theorem step_len {c c' : Cfg ν σ} {ev : Ev} (hs : step? c ev = some c') : c'.pcs.length = c.pcs.length := by
  obtain ⟨_, _, _, _, _, e | ⟨_, e⟩⟩ := (step_of_step? hs).shape <;> simp [e]

theorem step_thread_lt {c c' : Cfg ν σ} {ev : Ev} (h : step? c ev = some c') :
    ev.thread < c.pcs.length := by
  obtain ⟨_, _, _, hp, _⟩ := (step_of_step? h).shape
  exact lt_of_getElem?_some hp

def pcNode : Pc ν → Option ν
  | .solving n => some n
  | .want (some n) => some n
  | _ => none

def flyOf : Pc ν → List ν
  | .solving n => [n]
  | .want (some n) => [n]
  | _ => []

def flying (pcs : List (Pc ν)) : List ν := pcs.flatMap flyOf

def pendNodes (l : List (ν × Nat)) : List ν := l.map (·.1)

theorem mem_flyOf {pc : Pc ν} {n : ν} : n ∈ flyOf pc ↔ pcNode pc = some n := by
  cases pc with
  | want r => cases r <;> simp [flyOf, pcNode, eq_comm]
  | _ => simp [flyOf, pcNode, eq_comm]

theorem flying_set {pcs : List (Pc ν)} {t : Nat} {old : Pc ν} (h : pcs[t]? = some old) (new : Pc ν) :
    List.Perm (flyOf old ++ flying (pcs.set t new)) (flyOf new ++ flying pcs) := by
  simpa [flying] using (set_perm h new).flatMap_right flyOf

theorem flying_set_same {pcs : List (Pc ν)} {t : Nat} {old new : Pc ν} (h : pcs[t]? = some old)
    (he : flyOf old = flyOf new) : List.Perm (flying (pcs.set t new)) (flying pcs) := by
  have := flying_set h new
  rw [he] at this
  exact (List.perm_append_left_iff _).1 this

theorem flying_wakeAll (pcs : List (Pc ν)) : flying (wakeAll pcs) = flying pcs := by
  simp only [flying, wakeAll, List.flatMap_map]
  congr 1
  funext pc
  cases pc <;> rfl

theorem pendNodes_erase {l : List (ν × Nat)} {k : Nat} {n : ν} {ps : Nat} (h : l[k]? = some (n, ps)) :
    List.Perm (pendNodes l) (n :: pendNodes (l.eraseIdx k)) :=
  (eraseIdx_perm h).map Prod.fst

theorem Applied.pendNodes {c c₁ : Cfg ν σ} {n : ν} (h : Applied c n c₁) :
    pendNodes c₁.pending = pushed n ++ pendNodes c.pending := by
  cases h with
  | keep hpush => rw [hpush]; rfl
  | improve hr => simp [pushed, hr]
  | branch hr => simp [pushed_of_infeasible hr, Eng3.pendNodes, Function.comp_def]

/-- what a step does to the search, as a label: the ghost history and the counters read it off -/
inductive Act (ν : Type)
  | neutral
  | pop (n : ν)
  | bound (n : ν)
  | fail (n : ν)
  | apply (n : ν)

def act (c : Cfg ν σ) : Ev → Act ν
  | .acquire t =>
    match c.lock, c.pcs[t]? with
    | none, some (.want (some n)) => if isPanic (Solver.res n) then .fail n else .apply n
    | _, _ => .neutral
  | .top t k =>
    match c.pcs[t]?, c.pending[k]? with
    | some .holding, some (n, ps) => if c.best = none ∨ ps > c.bestScore then .pop n else .bound n
    | _, _ => .neutral
  | _ => .neutral

def isGone : Pc ν → Bool
  | .dying => true
  | .dead => true
  | _ => false

/-- What a step does to the search state (queue, in-flight nodes, incumbent, number of workers lost),
    forgetting which thread did it and where the lock went: nothing; a queued node goes in flight; a
    queued node is bounded; a node in flight fails and takes its worker with it; the result of a node
    in flight is applied. -/
inductive Move (c c' : Cfg ν σ) : Act ν → Prop
  | neutral (hY : (flying c'.pcs).Perm (flying c.pcs)) (hP : c'.pending = c.pending)
      (hb : c'.best = c.best) (hs : c'.bestScore = c.bestScore)
      (hG : c'.pcs.countP isGone = c.pcs.countP isGone) : Move c c' .neutral
  | pop {k n ps} (hk : c.pending[k]? = some (n, ps)) (hgt : c.best = none ∨ ps > c.bestScore)
      (hY : (flying c'.pcs).Perm (n :: flying c.pcs)) (hP : c'.pending = c.pending.eraseIdx k)
      (hb : c'.best = c.best) (hs : c'.bestScore = c.bestScore)
      (hG : c'.pcs.countP isGone = c.pcs.countP isGone) : Move c c' (.pop n)
  | bound {k n ps} (hk : c.pending[k]? = some (n, ps)) (hle : ¬ (c.best = none ∨ ps > c.bestScore))
      (hY : (flying c'.pcs).Perm (flying c.pcs)) (hP : c'.pending = c.pending.eraseIdx k)
      (hb : c'.best = c.best) (hs : c'.bestScore = c.bestScore)
      (hG : c'.pcs.countP isGone = c.pcs.countP isGone) : Move c c' (.bound n)
  | fail {n} (hr : isPanic (Solver.res n) = true) (hY : (flying c.pcs).Perm (n :: flying c'.pcs))
      (hP : c'.pending = c.pending) (hb : c'.best = c.best) (hs : c'.bestScore = c.bestScore)
      (hG : c'.pcs.countP isGone = c.pcs.countP isGone + 1) : Move c c' (.fail n)
  | apply {n c₁} (hr : isPanic (Solver.res n) = false) (ha : Applied c n c₁)
      (hY : (flying c.pcs).Perm (n :: flying c'.pcs)) (hP : c'.pending = c₁.pending)
      (hb : c'.best = c₁.best) (hs : c'.bestScore = c₁.bestScore)
      (hG : c'.pcs.countP isGone = c.pcs.countP isGone) : Move c c' (.apply n)

theorem Step.move {c c' : Cfg ν σ} {ev : Ev} (hs : Step c ev c') : Move c c' (act c ev) := by
  -- a pc change that is not the registration of a panic leaves the number of lost workers alone
  have keep := fun {t : Nat} {old new : Pc ν} (hp : c.pcs[t]? = some old)
    (he : isGone new = isGone old) => countP_set_same hp he
  have keepW := fun {t : Nat} {old new : Pc ν} (hp : (wakeAll c.pcs)[t]? = some old)
    (he : isGone new = isGone old) => (countP_set_same hp he).trans (countP_wakeAll isGone rfl c.pcs)
  cases hs with
  | acquireIdle hl hp =>
    simp only [act, hl, hp]; exact .neutral (flying_set_same hp rfl) rfl rfl rfl (keep hp rfl)
  | acquirePanic hl hp hr =>
    simp only [act, hl, hp, hr, if_true]
    exact .fail hr (flying_set hp Pc.dying).symm rfl rfl rfl (countP_set_of_getElem? isGone hp .dying)
  | acquireApply hl hp hr ha =>
    simp only [act, hl, hp, hr, Bool.false_eq_true, if_false]
    exact .apply hr ha (flying_set hp Pc.afterPop).symm rfl rfl rfl (keep hp rfl)
  | topSolve hp hk hgt =>
    simp only [act, hp, hk, if_pos hgt]; exact .pop hk hgt (flying_set hp _) rfl rfl rfl (keep hp rfl)
  | topBound hp hk hle =>
    simp only [act, hp, hk, if_neg hle]
    exact .bound hk hle (flying_set_same hp rfl) rfl rfl rfl (keep hp rfl)
  | @topWait t k hp he | @topDone t k hp he =>
    have : c.pending[k]? = none := by rw [he]; rfl
    simp only [act, hp, this]; exact .neutral (flying_set_same hp rfl) rfl rfl rfl (keep hp rfl)
  | afterContinue hp | wake hp | solve hp =>
    exact .neutral (flying_set_same hp rfl) rfl rfl rfl (keep hp rfl)
  | afterFinish hp | die hp =>
    have hp' := wakeAll_getElem?_of hp (by simp)
    refine .neutral ?_ rfl rfl rfl (keepW hp' rfl)
    rw [← flying_wakeAll c.pcs]
    exact flying_set_same hp' rfl

def openNodes (c : Cfg ν σ) : List ν := flying c.pcs ++ pendNodes c.pending

/-- What a move does to the open nodes: nothing (a pop only takes a queued node in flight); one of
    them goes (bounded, failed); one of them is replaced by the children it pushes. -/
theorem Move.open {c c' : Cfg ν σ} {a : Act ν} : Move c c' a →
    match a with
    | .neutral | .pop _ => (openNodes c').Perm (openNodes c)
    | .bound n | .fail n => (openNodes c).Perm (n :: openNodes c')
    | .apply n => ∃ r, (openNodes c).Perm (n :: r) ∧ (openNodes c').Perm (pushed n ++ r) := by
  intro hm
  unfold openNodes
  cases hm with
  | neutral hY hP => rw [hP]; exact hY.append_right _
  | pop hk _ hY hP =>
    rw [hP]
    exact ((hY.append_right _).trans List.perm_middle.symm).trans
      ((pendNodes_erase hk).symm.append_left _)
  | bound hk _ hY hP =>
    rw [hP]
    exact ((pendNodes_erase hk).append_left _).trans
      (List.perm_middle.trans ((hY.symm.append_right _).cons _))
  | fail _ hY hP => rw [hP]; exact hY.append_right _
  | apply _ ha hY hP =>
    rw [hP, ha.pendNodes]
    exact ⟨_, hY.append_right _, List.perm_append_comm_assoc ..⟩

/-- a worker is lost exactly when a node fails -/
theorem Move.gone {c c' : Cfg ν σ} {a : Act ν} (hm : Move c c' a) :
    c'.pcs.countP isGone = c.pcs.countP isGone + match a with | .fail _ => 1 | _ => 0 := by
  cases hm <;> assumption

theorem Move.apply_mem {c c' : Cfg ν σ} {n : ν} (hm : Move c c' (.apply n)) : n ∈ openNodes c :=
  let ⟨_, h1, _⟩ := hm.open
  h1.symm.subset (.head _)

/-- an entry of the queue after a move was there before, or is a child of the applied inner node,
    queued with that node's score -/
theorem Move.mem_pending {c c' : Cfg ν σ} {a : Act ν} (hm : Move c c' a) {e : ν × Nat}
    (he : e ∈ c'.pending) : e ∈ c.pending ∨
      ∃ n sc, a = .apply n ∧ Solver.res n = .infeasible sc ∧ e.1 ∈ Solver.kids n ∧ e.2 = sc := by
  cases hm with
  | neutral _ hP | fail _ _ hP => exact .inl (hP ▸ he)
  | pop _ _ _ hP | bound _ _ _ hP => exact .inl (List.mem_of_mem_eraseIdx (hP ▸ he))
  | apply _ ha _ hP =>
    rw [hP] at he
    cases ha with
    | keep | improve => exact .inl he
    | branch hr =>
      refine (List.mem_append.1 he).symm.imp_right fun hm => ?_
      obtain ⟨k, hk, rfl⟩ := List.mem_map.1 hm
      exact ⟨_, _, rfl, hr, hk, rfl⟩

/-- the incumbent after a move is the one before, or the feasible verdict of the applied node, which
    beats it -/
theorem Move.incumbent {c c' : Cfg ν σ} {a : Act ν} (hm : Move c c' a) :
    (c'.best = c.best ∧ c'.bestScore = c.bestScore) ∨
    ∃ n sol, a = .apply n ∧ Solver.res n = .feasible sol c'.bestScore ∧ c'.best = some sol ∧
      (c.best = none ∨ c'.bestScore > c.bestScore) := by
  cases hm with
  | neutral _ _ hb hs | pop _ _ _ _ hb hs | bound _ _ _ _ hb hs | fail _ _ _ hb hs => exact .inl ⟨hb, hs⟩
  | apply _ ha _ _ hb hs =>
    cases ha with
    | keep | branch => exact .inl ⟨hb, hs⟩
    | improve hr hgt => exact .inr ⟨_, _, rfl, hs ▸ hr, hb, hs ▸ hgt⟩

theorem Reach.of_move {root : ν} {top T : Nat} {P : Cfg ν σ → Prop} (h0 : P (Eng3.init root top T))
    (hm : ∀ {c c' : Cfg ν σ} {a : Act ν}, P c → Move c c' a → P c') {c : Cfg ν σ}
    (hr : Reach root top T c) : P c := by
  induction hr with
  | init => exact h0
  | step _ hs ih => exact hm ih (step_of_step? hs).move

def isFlight : Pc ν → Bool
  | .solving _ => true
  | .want (some _) => true
  | _ => false

def holdsLock : Pc ν → Bool
  | .holding => true
  | .afterPop => true
  | _ => false

def AllDone (c : Cfg ν σ) : Prop := ∀ (t : Nat) pc, c.pcs[t]? = some pc → pc = .done
def AllFinished (c : Cfg ν σ) : Prop := ∀ (t : Nat) pc, c.pcs[t]? = some pc → pc = .done ∨ pc = .dead

def Ev.isWake : Ev → Bool
  | .wake _ => true
  | _ => false

omit [Solver ν σ] in
theorem allFinished_iff {c : Cfg ν σ} : AllFinished c ↔ ∀ pc ∈ c.pcs, pc = .done ∨ pc = .dead :=
  forall_getElem?_iff

omit [Solver ν σ] in
theorem allDone_iff {c : Cfg ν σ} : AllDone c ↔ ∀ pc ∈ c.pcs, pc = .done :=
  forall_getElem?_iff

omit [Solver ν σ] in
/-- once every worker has stopped, a count over the pcs sees `done` and `dead` only -/
theorem AllFinished.countP_congr {c : Cfg ν σ} (hf : AllFinished c) {p q : Pc ν → Bool}
    (hd : p .done = q .done) (hx : p .dead = q .dead) : c.pcs.countP p = c.pcs.countP q :=
  List.countP_congr fun pc hm => by rcases allFinished_iff.1 hf pc hm with rfl | rfl <;> simp [hd, hx]

omit [Solver ν σ] in
theorem AllDone.countP_eq_zero {c : Cfg ν σ} (hd : AllDone c) {p : Pc ν → Bool} (hp : p .done = false) :
    c.pcs.countP p = 0 :=
  List.countP_eq_zero.2 fun pc hm => by rw [allDone_iff.1 hd pc hm, hp]; exact Bool.false_ne_true

omit [Solver ν σ] in
theorem flying_of_allFinished {c : Cfg ν σ} (hf : AllFinished c) : flying c.pcs = [] :=
  List.flatMap_eq_nil_iff.2 fun pc hm => by rcases allFinished_iff.1 hf pc hm with rfl | rfl <;> rfl

omit [Solver ν σ] in
theorem AllDone.finished {c : Cfg ν σ} (h : AllDone c) : AllFinished c := fun t pc hp => .inl (h t pc hp)

/-! ### statistics (bab.rs:68-85, 274-318) as a layer on top of the transition system

The counters never influence control flow, so they are computed alongside. `gen` (subproblems
generated so far) and `panicked` are ghost counters. -/

structure Stats where
  executed : Nat := 0
  noSol : Nat := 0
  infeasible : Nat := 0
  feasible : Nat := 0
  newBest : Nat := 0
  bound : Nat := 0
  gen : Nat := 1
  panicked : Nat := 0

def statsUpd (c : Cfg ν σ) (st : Stats) : Ev → Stats
  | .acquire t =>
    match c.lock, c.pcs[t]? with
    | none, some (.want (some n)) =>
      match Solver.res n with
      | .panic => { st with panicked := st.panicked + 1 }
      | .noSol => { st with executed := st.executed + 1, noSol := st.noSol + 1 }
      | .feasible _ sc =>
        { st with executed := st.executed + 1, feasible := st.feasible + 1,
                  newBest := if c.best = none ∨ sc > c.bestScore then st.newBest + 1 else st.newBest }
      | .infeasible _ =>
        { st with executed := st.executed + 1, infeasible := st.infeasible + 1,
                  gen := st.gen + (Solver.kids n).length }
    | _, _ => st
  | .top t k =>
    match c.pcs[t]?, c.pending[k]? with
    | some .holding, some (_, ps) => if c.best = none ∨ ps > c.bestScore then st else { st with bound := st.bound + 1 }
    | _, _ => st
  | _ => st

def stepS (c : Cfg ν σ) (st : Stats) (ev : Ev) : Option (Cfg ν σ × Stats) :=
  (step? c ev).map (fun c' => (c', statsUpd c st ev))

/-- how the counters follow a move: nothing, a bounded node, a failed one, or an executed one with
    its verdict and the children it generates -/
def Stats.Follows (st st' : Stats) : Act ν → Prop
  | .neutral | .pop _ => st' = st
  | .bound _ => st' = { st with bound := st.bound + 1 }
  | .fail _ => st' = { st with panicked := st.panicked + 1 }
  | .apply n =>
    st'.executed = st.executed + 1 ∧
    st'.noSol + st'.infeasible + st'.feasible = st.noSol + st.infeasible + st.feasible + 1 ∧
    st'.bound = st.bound ∧ st'.gen = st.gen + (pushed n).length ∧ st'.panicked = st.panicked

theorem statsUpd_act (c : Cfg ν σ) (st : Stats) (ev : Ev) :
    st.Follows (statsUpd c st ev) (act c ev) := by
  cases ev with
  | acquire t =>
    simp only [statsUpd, act]
    split
    next n hl hp =>
      cases hr : Solver.res n with
      | panic => rfl
      | _ => exact ⟨rfl, by simp only; omega, rfl, by simp [pushed, hr], rfl⟩
    · rfl
  | top t k =>
    simp only [statsUpd, act]
    split
    · split <;> rfl
    · rfl
  | _ => rfl

end Eng3
