import Cdecao.Engine.Lock
/-! The counting equations of the statistics (`SInv`) along reachable configurations, stopped workers
    staying stopped, and the join loop of `bab::solve` (`outcome`): a failing worker makes `solve`
    fail, not hang. -/
namespace Eng3
variable {ν σ : Type} [Solver ν σ]

structure SInv (c : Cfg ν σ) (st : Stats) : Prop where
  exec : st.executed = st.noSol + st.infeasible + st.feasible
  gen : st.gen = st.executed + st.bound + c.pending.length + c.busy + st.panicked

omit [Solver ν σ] in
theorem sinv_init {root : ν} {top T : Nat} : SInv (init root top T : Cfg ν σ) {} := by
  refine ⟨rfl, ?_⟩
  simp [init]

theorem length_flying (pcs : List (Pc ν)) : (flying pcs).length = pcs.countP isFlight := by
  induction pcs with
  | nil => rfl
  | cons pc r ih =>
    simp only [flying, List.flatMap_cons, List.length_append, List.countP_cons] at ih ⊢
    rw [ih, Nat.add_comm]
    cases pc with
    | want r => cases r <;> rfl
    | _ => rfl

/-- the counting equation is the length of the accounting of open nodes: every generated node is
    executed, bounded, failed, in flight or queued, and each move shifts one node between columns -/
theorem sinv_step {c c' : Cfg ν σ} {st : Stats} {ev : Ev} (hl : LInv c) (h : SInv c st)
    (hs : step? c ev = some c') : SInv c' (statsUpd c st ev) := by
  have open_length : ∀ {d : Cfg ν σ}, LInv d → (openNodes d).length = d.pending.length + d.busy :=
    fun hd => by rw [openNodes, List.length_append, length_flying, ← hd.busy, pendNodes,
      List.length_map, Nat.add_comm]
  have ho := (step_of_step? hs).move.open
  have hst := statsUpd_act c st ev
  have hexec := h.exec
  have hgen := h.gen
  rw [Nat.add_assoc _ c.pending.length, ← open_length hl] at hgen
  generalize act c ev = a at ho hst
  generalize statsUpd c st ev = st' at hst ⊢
  refine ⟨?_, ?_⟩
  · cases a with
    | neutral | pop | bound | fail => cases hst; exact hexec
    | apply => exact hst.1.trans (hexec ▸ hst.2.1.symm)
  · rw [Nat.add_assoc _ c'.pending.length, ← open_length (linv_step hl hs)]
    cases a with
    | neutral | pop => cases hst; rw [ho.length_eq]; exact hgen
    | bound | fail =>
      cases hst
      simp only
      rw [hgen, ho.length_eq, List.length_cons]; omega
    | apply n =>
      obtain ⟨r, h1, h2⟩ := ho
      obtain ⟨e1, -, e3, e4, e5⟩ := hst
      rw [e1, e3, e4, e5, hgen, h1.length_eq, h2.length_eq, List.length_cons, List.length_append]; omega

#print axioms sinv_step

/-- the transition system paired with its counters, started with the defaults (`gen = 1`: the root) -/
inductive ReachS (root : ν) (top T : Nat) : Cfg ν σ × Stats → Prop where
  | init : ReachS root top T (init root top T, {})
  | step {p p' : Cfg ν σ × Stats} {ev : Ev} :
      ReachS root top T p → stepS p.1 p.2 ev = some p' → ReachS root top T p'

theorem stepS_eq_some {c : Cfg ν σ} {st : Stats} {ev : Ev} {p' : Cfg ν σ × Stats}
    (h : stepS c st ev = some p') : step? c ev = some p'.1 ∧ p'.2 = statsUpd c st ev := by
  obtain ⟨c', hs, rfl⟩ := Option.map_eq_some_iff.1 h
  exact ⟨hs, rfl⟩

theorem stepS_of_step {c c' : Cfg ν σ} (st : Stats) {ev : Ev} (h : step? c ev = some c') :
    stepS c st ev = some (c', statsUpd c st ev) := by
  simp [stepS, h]

theorem reachS_reach {root : ν} {top T : Nat} {p : Cfg ν σ × Stats} (h : ReachS root top T p) :
    Reach root top T p.1 := by
  induction h with
  | init => exact Reach.init
  | step _ hs ih => exact Reach.step ih (stepS_eq_some hs).1

theorem reachS_sinv {root : ν} {top T : Nat} {p : Cfg ν σ × Stats} (hT : 0 < T)
    (h : ReachS root top T p) : SInv p.1 p.2 := by
  induction h with
  | init => exact sinv_init
  | step hr hs ih =>
    obtain ⟨h1, h2⟩ := stepS_eq_some hs
    rw [h2]
    exact sinv_step (reach_linv hT (reachS_reach hr)) ih h1

omit [Solver ν σ] in
theorem pinv_init {root : ν} {top T : Nat} :
    ({} : Stats).panicked = (init root top T : Cfg ν σ).pcs.countP isGone := by
  simp [init, List.countP_replicate, isGone]

/-- only a result that turns out to be a panic moves a pc into `dying`, and only it is counted -/
theorem pinv_move {c c' : Cfg ν σ} {st st' : Stats} {a : Act ν} (h : st.panicked = c.pcs.countP isGone)
    (hm : Move c c' a) (hst : st.Follows st' a) : st'.panicked = c'.pcs.countP isGone := by
  rw [hm.gone, ← h]
  cases a with
  | neutral | pop | bound | fail => cases hst; rfl
  | apply => exact hst.2.2.2.2

theorem reachS_pinv {root : ν} {top T : Nat} {p : Cfg ν σ × Stats}
    (h : ReachS root top T p) : p.2.panicked = p.1.pcs.countP isGone := by
  induction h with
  | init => exact pinv_init
  | step _ hs ih =>
    obtain ⟨h1, h2⟩ := stepS_eq_some hs
    rw [h2]
    exact pinv_move ih (step_of_step? h1).move (statsUpd_act ..)

theorem panicked_pos_iff {root : ν} {top T : Nat} {c : Cfg ν σ} {st : Stats}
    (h : ReachS root top T (c, st)) :
    0 < st.panicked ↔ ∃ t : Nat, c.pcs[t]? = some Pc.dying ∨ c.pcs[t]? = some Pc.dead := by
  have hp : st.panicked = c.pcs.countP isGone := reachS_pinv h
  rw [hp]
  constructor
  · intro hpos
    obtain ⟨a, hm, ha⟩ := List.countP_pos_iff.1 hpos
    obtain ⟨i, hi⟩ := List.mem_iff_getElem?.1 hm
    refine ⟨i, ?_⟩
    cases a <;> simp [isGone] at ha
    · exact Or.inl hi
    · exact Or.inr hi
  · rintro ⟨t, ht | ht⟩ <;> exact List.countP_pos_iff.2 ⟨_, List.mem_of_getElem? ht, rfl⟩

theorem panicked_at_finished {root : ν} {top T : Nat} {c : Cfg ν σ} {st : Stats}
    (hr : ReachS root top T (c, st)) (hd : AllFinished c) :
    st.panicked = c.pcs.countP (fun pc => match pc with | .dead => true | _ => false) :=
  (reachS_pinv hr).trans (hd.countP_congr rfl rfl)

theorem stats_at_finished {root : ν} {top T : Nat} {c : Cfg ν σ} {st : Stats} (hT : 0 < T)
    (hr : ReachS root top T (c, st)) (hd : AllFinished c) :
    st.executed = st.noSol + st.infeasible + st.feasible ∧
    st.gen = st.executed + st.bound + c.pending.length + st.panicked ∧
    st.panicked = c.pcs.countP (fun pc => match pc with | .dead => true | _ => false) := by
  have hs : SInv c st := reachS_sinv hT hr
  refine ⟨hs.exec, ?_, panicked_at_finished hr hd⟩
  have := hs.gen
  rwa [(reach_linv hT (reachS_reach hr)).busy_zero hd] at this

theorem stats_at_done {root : ν} {top T : Nat} {c : Cfg ν σ} {st : Stats} (hT : 0 < T)
    (hr : ReachS root top T (c, st)) (hd : AllDone c) :
    st.executed = st.noSol + st.infeasible + st.feasible ∧ st.gen = st.executed + st.bound := by
  obtain ⟨h1, h2, h3⟩ := stats_at_finished hT hr hd.finished
  rw [allDone_pending hT (reachS_reach hr) hd, h3, hd.countP_eq_zero rfl] at h2
  exact ⟨h1, h2⟩

theorem finished_no_step {c : Cfg ν σ} (hf : AllFinished c) (ev : Ev) : step? c ev = none := by
  cases h : step? c ev with
  | none => rfl
  | some c' =>
    obtain ⟨old, _, _, hu, he, _⟩ := (step_of_step? h).shape
    rcases hf _ old hu with rfl | rfl <;> cases pcEv_alive he

theorem step_keeps_stopped {c c' : Cfg ν σ} {ev : Ev} (hs : step? c ev = some c') {t : Nat}
    {pc : Pc ν} (hp : c.pcs[t]? = some pc) (hst : pc = .done ∨ pc = .dead) :
    c'.pcs[t]? = some pc := by
  obtain ⟨old, _, new, hu, he, hsh⟩ := (step_of_step? hs).shape
  have hne : ev.thread ≠ t := by
    rintro rfl; cases hu.symm.trans hp; rcases hst with rfl | rfl <;> cases pcEv_alive he
  rcases hsh with e | ⟨_, e⟩ <;> rw [e, List.getElem?_set_ne hne]
  · exact hp
  · exact wakeAll_getElem?_of hp (by rcases hst with e | e <;> simp [e])

theorem done_absorbing {c c' : Cfg ν σ} {ev : Ev} (hs : step? c ev = some c') {t : Nat}
    (hp : c.pcs[t]? = some Pc.done) : c'.pcs[t]? = some Pc.done :=
  step_keeps_stopped hs hp (Or.inl rfl)

inductive Steps : Cfg ν σ → Cfg ν σ → Prop where
  | refl (c : Cfg ν σ) : Steps c c
  | step {c c' c'' : Cfg ν σ} {ev : Ev} : Steps c c' → step? c' ev = some c'' → Steps c c''

theorem reach_steps {root : ν} {top T : Nat} {c c' : Cfg ν σ} (hr : Reach root top T c)
    (hs : Steps c c') : Reach root top T c' := by
  induction hs with
  | refl => exact hr
  | step _ h ih => exact Reach.step ih h

theorem reach_iff_steps {root : ν} {top T : Nat} {c : Cfg ν σ} :
    Reach root top T c ↔ Steps (init root top T) c := by
  constructor
  · intro h
    induction h with
    | init => exact Steps.refl _
    | step _ hs ih => exact Steps.step ih hs
  · intro h; exact reach_steps Reach.init h

theorem steps_keep_stopped {c c' : Cfg ν σ} (hs : Steps c c') {t : Nat} {pc : Pc ν}
    (hp : c.pcs[t]? = some pc) (hst : pc = .done ∨ pc = .dead) : c'.pcs[t]? = some pc := by
  induction hs with
  | refl => exact hp
  | step _ h ih => exact step_keeps_stopped h ih hst

theorem steps_len {c c' : Cfg ν σ} (hs : Steps c c') : c'.pcs.length = c.pcs.length := by
  induction hs with
  | refl => rfl
  | step _ h ih => rw [step_len h, ih]

/-- `for worker in workers { worker.join().unwrap(); }` (bab.rs:188-191): scan the workers in
    spawn order.
    `some false`: every worker ended normally, `solve` returns its result;
    `some true`: the first worker that has not ended normally was ended by a panic, the `unwrap`
    panics — `solve` fails;
    `none`: the scan is blocked in `join` on a worker that is still running. -/
def outcome : List (Pc ν) → Option Bool
  | [] => some false
  | .done :: r => outcome r
  | .dead :: _ => some true
  | _ :: _ => none

/-- the join loop is decided by the first worker that is not `done` -/
theorem outcome_spec (pcs : List (Pc ν)) :
    ((∀ pc ∈ pcs, pc = Pc.done) ∧ outcome pcs = some false) ∨
    ∃ (t : Nat) (pc : Pc ν), pcs[t]? = some pc ∧ pc ≠ .done ∧ (∀ u, u < t → pcs[u]? = some Pc.done) ∧
      outcome pcs = outcome [pc] := by
  induction pcs with
  | nil => exact .inl ⟨nofun, rfl⟩
  | cons a r ih =>
    cases a with
    | done =>
      rcases ih with ⟨h, e⟩ | ⟨t, pc, h1, h2, h3, e⟩
      · exact .inl ⟨by simpa using h, e⟩
      · refine .inr ⟨t + 1, pc, h1, h2, fun u hu => ?_, e⟩
        cases u with
        | zero => rfl
        | succ u => exact h3 u (Nat.lt_of_succ_lt_succ hu)
    | _ => exact .inr ⟨0, _, rfl, nofun, fun u hu => absurd hu (Nat.not_lt_zero u), rfl⟩

theorem outcome_false_iff (pcs : List (Pc ν)) :
    outcome pcs = some false ↔ ∀ pc ∈ pcs, pc = Pc.done := by
  rcases outcome_spec pcs with ⟨h, e⟩ | ⟨t, pc, h1, hne, _, e⟩
  · exact ⟨fun _ => h, fun _ => e⟩
  · refine ⟨fun hf => ?_, fun h => absurd (h pc (List.mem_of_getElem? h1)) hne⟩
    rw [e] at hf
    cases pc <;> first | exact absurd rfl hne | cases hf

omit [Solver ν σ] in
theorem outcome_false_iff_allDone (c : Cfg ν σ) : outcome c.pcs = some false ↔ AllDone c := by
  rw [outcome_false_iff, allDone_iff]

theorem outcome_none {pcs : List (Pc ν)} (h : outcome pcs = none) :
    ∃ (t : Nat) (pc : Pc ν), pcs[t]? = some pc ∧ pc ≠ .done ∧ pc ≠ .dead ∧
      ∀ u, u < t → pcs[u]? = some Pc.done := by
  rcases outcome_spec pcs with ⟨_, e⟩ | ⟨t, pc, h1, hne, h3, e⟩
  · rw [h] at e; cases e
  · refine ⟨t, pc, h1, hne, ?_, h3⟩
    rintro rfl
    rw [h] at e; cases e

theorem outcome_true_of_finished {pcs : List (Pc ν)}
    (hf : ∀ pc ∈ pcs, pc = Pc.done ∨ pc = Pc.dead) (hd : Pc.dead ∈ pcs) : outcome pcs = some true := by
  rcases outcome_spec pcs with ⟨h, _⟩ | ⟨t, pc, h1, hne, _, e⟩
  · cases h _ hd
  · rcases hf pc (List.mem_of_getElem? h1) with rfl | rfl
    · exact absurd rfl hne
    · exact e

/-- the join loop reads only workers that have stopped: its verdict stands as long as those stay as
    they are -/
theorem outcome_of_keep {pcs pcs' : List (Pc ν)} {b : Bool} (hl : pcs'.length = pcs.length)
    (hk : ∀ (t : Nat) (pc : Pc ν), pcs[t]? = some pc → pc = .done ∨ pc = .dead → pcs'[t]? = some pc)
    (h : outcome pcs = some b) : outcome pcs' = some b := by
  induction pcs generalizing pcs' with
  | nil => rwa [List.eq_nil_of_length_eq_zero hl]
  | cons a r ih =>
    obtain ⟨a', r', rfl⟩ := List.exists_cons_of_length_eq_add_one hl
    cases a with
    | done =>
      cases Option.some.inj (hk 0 _ rfl (.inl rfl))
      exact ih (pcs' := r') (Nat.succ.inj hl) (fun t => hk (t + 1)) h
    | dead => cases Option.some.inj (hk 0 _ rfl (.inr rfl)); exact h
    | _ => cases h

theorem outcome_stable {c c' : Cfg ν σ} {b : Bool} (hs : Steps c c') (h : outcome c.pcs = some b) :
    outcome c'.pcs = some b :=
  outcome_of_keep (steps_len hs) (fun _ _ => steps_keep_stopped hs) h

/-- C19: a failing worker makes the search fail, not hang. If some worker is `dead` in a reachable
    configuration `c`, then in every configuration `c'` reachable from `c`:
    the worker is still dead; the join loop does not report success; as long as some worker has
    not stopped some non-wake step is enabled (nobody waits forever); and once every worker has
    stopped the join loop panics (`outcome = some true`). -/
theorem failure_reported {root : ν} {top T : Nat} {c c' : Cfg ν σ} {t : Nat} (hT : 0 < T)
    (hr : Reach root top T c) (hdead : c.pcs[t]? = some Pc.dead) (hs : Steps c c') :
    c'.pcs[t]? = some Pc.dead ∧
    outcome c'.pcs ≠ some false ∧
    (¬ AllFinished c' → ∃ ev, ev.isWake = false ∧ (step? c' ev).isSome = true) ∧
    (AllFinished c' → outcome c'.pcs = some true) := by
  have hd' : c'.pcs[t]? = some Pc.dead := steps_keep_stopped hs hdead (Or.inr rfl)
  have hm := List.mem_of_getElem? hd'
  refine ⟨hd', fun hf => ?_, C04_no_deadlock hT (reach_steps hr hs),
    fun hf => outcome_true_of_finished (allFinished_iff.1 hf) hm⟩
  cases (outcome_false_iff _).1 hf _ hm

section Example
/-- one-node tree whose solver panics -/
local instance exSolver : Solver Unit Unit := ⟨fun _ => .panic, fun _ => []⟩

/-- one worker, root panics: acquire, top (pop root), solve, acquire (panic), die -/
example : ∃ c : Cfg Unit Unit, Reach () 0 1 c ∧ c.pcs[0]? = some Pc.dead ∧ AllFinished c ∧
    outcome c.pcs = some true := by
  let c0 : Cfg Unit Unit := init () 0 1
  have r0 : Reach () 0 1 c0 := Reach.init
  refine ⟨{ pending := [], busy := 0, best := none, bestScore := 0, lock := none, pcs := [.dead] },
    ?_, rfl, ?_, rfl⟩
  · have r1 := Reach.step (ev := .acquire 0) r0 rfl
    have r2 := Reach.step (ev := .top 0 0) r1 rfl
    have r3 := Reach.step (ev := .solve 0) r2 rfl
    have r4 := Reach.step (ev := .acquire 0) r3 rfl
    exact Reach.step (ev := .die 0) r4 rfl
  · exact allFinished_iff.2 fun pc h => .inr (List.mem_singleton.1 h)
end Example

section Example2
/-- two-node tree: the root is infeasible with one child, the child is feasible -/
local instance exSolver2 : Solver Bool Unit :=
  ⟨fun b => if b then .infeasible 7 else .feasible () 5, fun b => if b then [false] else []⟩

/-- the hypotheses of `stats_at_done` are satisfiable: one worker runs the two-node tree to the end
    (acquire, pop root, solve, apply, continue, pop child, solve, apply, finish) -/
example : ∃ (c : Cfg Bool Unit) (st : Stats), ReachS true 10 1 (c, st) ∧ AllDone c ∧
    st.gen = 2 ∧ st.executed = 2 ∧ st.infeasible = 1 ∧ st.feasible = 1 ∧ st.bound = 0 := by
  have r0 : ReachS true 10 1 ((init true 10 1 : Cfg Bool Unit), {}) := ReachS.init
  have r1 := ReachS.step (ev := .acquire 0) r0 rfl
  have r2 := ReachS.step (ev := .top 0 0) r1 rfl
  have r3 := ReachS.step (ev := .solve 0) r2 rfl
  have r4 := ReachS.step (ev := .acquire 0) r3 rfl
  have r5 := ReachS.step (ev := .after 0) r4 rfl
  have r6 := ReachS.step (ev := .top 0 0) r5 rfl
  have r7 := ReachS.step (ev := .solve 0) r6 rfl
  have r8 := ReachS.step (ev := .acquire 0) r7 rfl
  have r9 := ReachS.step (ev := .after 0) r8 rfl
  refine ⟨{ pending := [], busy := 0, best := some (), bestScore := 5, lock := none, pcs := [.done] },
    { executed := 2, noSol := 0, infeasible := 1, feasible := 1, newBest := 1, bound := 0, gen := 2,
      panicked := 0 }, r9, allDone_iff.2 fun pc h => List.mem_singleton.1 h, rfl, rfl, rfl, rfl, rfl⟩
end Example2

#print axioms reachS_sinv
#print axioms reachS_pinv
#print axioms stats_at_done
#print axioms stats_at_finished
#print axioms done_absorbing
#print axioms outcome_stable
#print axioms failure_reported
end Eng3
