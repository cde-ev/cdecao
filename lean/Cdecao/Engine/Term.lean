import Cdecao.Engine.Core
/-! The termination potential `Psi` of the engine transition system: every step other than a wake-up
    pays one out of it, and a step puts in 3 for each sleeper it wakes (`psi_step`, `C04_bounded_work`). -/
namespace Eng3
variable {ν σ : Type} [Solver ν σ]

/-- a budget function on subproblems: every node pays 5 for itself plus the budgets of its pushed
    children. The inequality is asked of EVERY `n : ν`, not only of the descendants of a root: with a
    budget the tree below every node is finite (`budget_subtree`), and every size function on `ν`
    gives one (`budget_of_size`; for a concrete finite tree it is defined by recursion, for caobab
    it is `5 * treeSize`, from the depth measure). -/
structure Budget (W : ν → Nat) : Prop where
  node : ∀ n : ν, 5 + ((pushed n).map W).sum ≤ W n

def phiPc (L : Nat) (W : ν → Nat) : Pc ν → Nat
  | .want none => 3
  | .want (some n) => W n
  | .holding => 2
  | .afterPop => 3
  | .solving n => W n + 1
  | .waiting => 0
  | .done => 0
  | .dying => 1
  | .dead => 0

def sumPcs (L : Nat) (W : ν → Nat) (pcs : List (Pc ν)) : Nat := (pcs.map (phiPc L W)).sum
def sumPend (W : ν → Nat) (l : List (ν × Nat)) : Nat := (l.map (fun p => W p.1)).sum

/-- the potential without the wake-up budget (`Phi` in Terminate.lean adds it) -/
def Psi (W : ν → Nat) (c : Cfg ν σ) : Nat := sumPend W c.pending + sumPcs c.pcs.length W c.pcs

theorem W_ge {W : ν → Nat} (hW : Budget W) (n : ν) : 5 ≤ W n := by
  have := hW.node n; omega

def wsum (W : ν → Nat) (l : List ν) : Nat := (l.map W).sum

theorem wsum_perm (W : ν → Nat) {l l' : List ν} (h : List.Perm l l') : wsum W l = wsum W l' :=
  (h.map W).sum_nat

theorem wsum_cons (W : ν → Nat) (a : ν) (l : List ν) : wsum W (a :: l) = W a + wsum W l := rfl

theorem wsum_append (W : ν → Nat) (l l' : List ν) : wsum W (l ++ l') = wsum W l + wsum W l' := by
  simp only [wsum, List.map_append, List.sum_append_nat]

theorem sumPend_eq (W : ν → Nat) (l : List (ν × Nat)) : sumPend W l = wsum W (pendNodes l) := by
  simp only [sumPend, wsum, pendNodes, List.map_map]; rfl

theorem sumPend_erase (W : ν → Nat) {l : List (ν × Nat)} {k : Nat} {n : ν} {ps : Nat}
    (h : l[k]? = some (n, ps)) : sumPend W l = W n + sumPend W (l.eraseIdx k) := by
  rw [sumPend_eq, sumPend_eq, wsum_perm W (pendNodes_erase h), wsum_cons]

theorem sum_set_phi (L : Nat) (W : ν → Nat) {pcs : List (Pc ν)} {t : Nat} {old : Pc ν}
    (h : pcs[t]? = some old) (new : Pc ν) :
    sumPcs L W (pcs.set t new) + phiPc L W old = sumPcs L W pcs + phiPc L W new := by
  have := ((set_perm h new).map (phiPc L W)).sum_nat
  simp only [List.map_cons, List.sum_cons] at this
  unfold sumPcs; omega

def isWaiting : Pc ν → Bool
  | .waiting => true
  | _ => false

theorem sum_wakeAll (L : Nat) (W : ν → Nat) (pcs : List (Pc ν)) :
    sumPcs L W (wakeAll pcs) = sumPcs L W pcs + 3 * pcs.countP isWaiting := by
  induction pcs with
  | nil => rfl
  | cons x xs ih =>
    have hx : sumPcs L W (wakeAll [x]) = phiPc L W x + 3 * if isWaiting x then 1 else 0 := by
      cases x <;> rfl
    simp only [sumPcs, wakeAll, List.map_cons, List.map_nil, List.sum_cons, List.sum_nil,
      List.countP_cons] at hx ih ⊢
    omega

theorem countWaiting_lt {pcs : List (Pc ν)} {t : Nat} {pc : Pc ν} (h : pcs[t]? = some pc)
    (hw : isWaiting pc = false) : pcs.countP isWaiting + 1 ≤ pcs.length := by
  have h1 := List.length_eq_countP_add_countP isWaiting (l := pcs)
  have h2 : 0 < pcs.countP (fun a => decide ¬ isWaiting a = true) :=
    List.countP_pos_iff.2 ⟨pc, List.mem_of_getElem? h, by simp [hw]⟩
  omega

/-- number of sleeping threads an event wakes (a `wake` event: one; a `notify_all`: all sleepers) -/
def wakes (c : Cfg ν σ) : Ev → Nat
  | .wake _ => 1
  | .after t =>
    match c.pcs[t]? with
    | some .afterPop => if c.pending = [] ∧ c.busy = 0 then c.pcs.countP isWaiting else 0
    | _ => 0
  | .die t =>
    match c.pcs[t]? with
    | some .dying => c.pcs.countP isWaiting
    | _ => 0
  | _ => 0

section
omit [Solver ν σ]
variable {c : Cfg ν σ} {t : Nat}

theorem wakes_afterFinish (hp : c.pcs[t]? = some .afterPop) (he : c.pending = []) (hb : c.busy = 0) :
    wakes c (.after t) = c.pcs.countP isWaiting := by
  simp only [wakes, hp, he, hb, and_self, if_true]

theorem wakes_afterContinue (hp : c.pcs[t]? = some .afterPop) (hne : ¬ (c.pending = [] ∧ c.busy = 0)) :
    wakes c (.after t) = 0 := by
  simp only [wakes, hp, if_neg hne]

theorem wakes_die (hp : c.pcs[t]? = some .dying) : wakes c (.die t) = c.pcs.countP isWaiting := by
  simp only [wakes, hp]
end

section
omit [Solver ν σ]
variable {W : ν → Nat} {c c' : Cfg ν σ} {t : Nat} {old new : Pc ν}

/-- Thread `t` goes from `old` to `new` while the queue goes from `c.pending` to `c'.pending`: the
    potential changes by what these two changes add up to (`d`: what the step pays, `w`: the
    sleepers it wakes). -/
theorem psi_set (d w : Nat) (hp : c.pcs[t]? = some old) (hpcs : c'.pcs = c.pcs.set t new)
    (h : sumPend W c'.pending + phiPc c.pcs.length W new + d ≤
      sumPend W c.pending + phiPc c.pcs.length W old + 3 * w) : Psi W c' + d ≤ Psi W c + 3 * w := by
  have := sum_set_phi c.pcs.length W hp new
  simp only [Psi, hpcs, List.length_set]; omega

/-- The same when thread `t`, not asleep itself, wakes all sleepers on the way: each of them goes from
    0 to 3. -/
theorem psi_set_wakeAll (d : Nat) (hp : c.pcs[t]? = some old) (hne : old ≠ .waiting)
    (hpcs : c'.pcs = (wakeAll c.pcs).set t new)
    (h : sumPend W c'.pending + phiPc c.pcs.length W new + d ≤
      sumPend W c.pending + phiPc c.pcs.length W old) :
    Psi W c' + d ≤ Psi W c + 3 * c.pcs.countP isWaiting := by
  have := sum_set_phi c.pcs.length W (wakeAll_getElem?_of hp hne) new
  have := sum_wakeAll c.pcs.length W c.pcs
  simp only [Psi, hpcs, List.length_set, length_wakeAll]; omega
end

/-- `Props.C04_bounded_work`. Summed over a run: (#non-wake events) ≤ Psi(init) + 3·(#threads woken). -/
theorem psi_step (W : ν → Nat) (hW : Budget W) {c c' : Cfg ν σ} {ev : Ev} (hs : step? c ev = some c') :
    Psi W c' + (if ev.isWake then 0 else 1) ≤ Psi W c + 3 * wakes c ev := by
  -- what the stepping thread holds before and after (`phiPc`), and what the queue gains or loses
  cases step_of_step? hs with
  | wake hp => exact psi_set 0 1 hp rfl (Nat.le_refl _)                      -- 0 → 3, paid by the wake
  | solve hp => exact psi_set 1 0 hp rfl (Nat.le_refl _)                     -- W n + 1 → W n
  | acquireIdle _ hp => exact psi_set 1 0 hp rfl (Nat.le_refl _)             -- 3 → 2
  | topWait hp => exact psi_set 1 0 hp rfl (Nat.le_add_right _ 1)            -- 2 → 0
  | topDone hp => exact psi_set 1 0 hp rfl (Nat.le_add_right _ 1)            -- 2 → 0
  | afterContinue hp hne =>                                                    -- 3 → 2
    rw [wakes_afterContinue hp hne]; exact psi_set 1 0 hp rfl (Nat.le_refl _)
  | afterFinish hp he hb =>                                                    -- 3 → 0
    rw [wakes_afterFinish hp he hb]
    exact psi_set_wakeAll 1 hp (by simp) rfl (Nat.le_add_right _ 2)
  | die hp =>                                                                  -- 1 → 0
    rw [wakes_die hp]; exact psi_set_wakeAll 1 hp (by simp) rfl (Nat.le_refl _)
  | @acquirePanic _ n _ hp =>                                                  -- W n → 1
    have := W_ge hW n
    exact psi_set 1 0 hp rfl (by simp only [phiPc]; omega)
  | @acquireApply _ n _ _ hp _ ha =>                              -- W n → 3, the children are queued
    have : 5 + wsum W (pushed n) ≤ W n := hW.node n
    exact psi_set 1 0 hp rfl (by simp only [phiPc, sumPend_eq, ha.pendNodes, wsum_append]; omega)
  | topSolve hp hk =>                                             -- 2 → W n + 1, `n` leaves the queue
    exact psi_set 1 0 hp rfl (by simp only [phiPc, sumPend_erase W hk]; omega)
  | @topBound _ _ n _ hp hk =>                                    -- 2 → 3, `n` leaves the queue
    have := W_ge hW n
    exact psi_set 1 0 hp rfl (by simp only [phiPc, sumPend_erase W hk]; omega)

#print axioms psi_step
end Eng3
