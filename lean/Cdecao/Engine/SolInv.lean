import Cdecao.Engine.Lock
/-! What holds of the search state in every reachable configuration, for every thread count and
    schedule. With no assumption on the solver, queued nodes, nodes in flight and the incumbent are
    nodes of the tree (`SolInv`; this is what C01/C06/C08 use). For a `Bounded` tree every feasible
    node better than the incumbent is still below an open node (`OptInv`), so a finished search
    holds an optimum (`C09_final`, `C03_engine`). Both are preserved move by move (`Move`). -/
namespace Eng3
variable {ν σ : Type} [Solver ν σ]

structure SolInv (root : ν) (c : Cfg ν σ) : Prop where
  pend : ∀ n ps, (n, ps) ∈ c.pending → Desc n root
  fly : ∀ pc ∈ c.pcs, ∀ n, pcNode pc = some n → Desc n root
  inc : c.best = none ∨ (∃ f sol, Desc f root ∧ Solver.res f = .feasible sol c.bestScore ∧ c.best = some sol)

theorem solinv_init {root : ν} {top T : Nat} : SolInv root (init root top T : Cfg ν σ) := by
  refine ⟨?_, ?_, Or.inl rfl⟩
  · intro n ps h
    simp [init] at h
    rw [h.1]; exact Desc.refl _
  · intro pc hpc n hn
    simp [init, List.mem_replicate] at hpc
    rw [hpc.2] at hn; simp [pcNode] at hn

theorem solinv_iff {root : ν} {c : Cfg ν σ} : SolInv root c ↔
    (∀ n ∈ openNodes c, Desc n root) ∧
    (c.best = none ∨ (∃ f sol, Desc f root ∧ Solver.res f = .feasible sol c.bestScore ∧ c.best = some sol)) := by
  have hfly : (∀ pc ∈ c.pcs, ∀ n, pcNode pc = some n → Desc n root) ↔ ∀ n ∈ flying c.pcs, Desc n root := by
    simp only [flying, List.mem_flatMap, mem_flyOf]
    exact ⟨fun h n ⟨pc, hpc, hn⟩ => h pc hpc n hn, fun h pc hpc n hn => h n ⟨pc, hpc, hn⟩⟩
  have hpend : (∀ n ps, (n, ps) ∈ c.pending → Desc n root) ↔ ∀ n ∈ pendNodes c.pending, Desc n root := by
    simp only [pendNodes, List.mem_map]
    exact ⟨fun h n ⟨p, hp, e⟩ => e ▸ h p.1 p.2 hp, fun h n ps hp => h n ⟨_, hp, rfl⟩⟩
  rw [openNodes, List.forall_mem_append]
  exact ⟨fun h => ⟨⟨hfly.1 h.fly, hpend.1 h.pend⟩, h.inc⟩, fun h => ⟨hpend.2 h.1.2, hfly.2 h.1.1, h.2⟩⟩

theorem solinv_move {root : ν} {c c' : Cfg ν σ} {a : Act ν} (h : SolInv root c) (hm : Move c c' a) :
    SolInv root c' := by
  obtain ⟨hopen, hinc⟩ := solinv_iff.1 h
  refine solinv_iff.2 ⟨fun m hm' => ?_, ?_⟩
  · have ho := hm.open
    cases a with
    | neutral | pop => exact hopen m (ho.subset hm')
    | bound | fail => exact hopen m (ho.symm.subset (.tail _ hm'))
    | apply n =>
      -- an open node was open before or is a child of `n`
      obtain ⟨r, h1, h2⟩ := ho
      exact (List.mem_append.1 (h2.subset hm')).elim
        (fun hk => desc_trans (.step hk (.refl _)) (hopen n hm.apply_mem))
        fun hm' => hopen m (h1.symm.subset (.tail _ hm'))
  · rcases hm.incumbent with ⟨hb, hs⟩ | ⟨n, sol, rfl, hr, hb, _⟩
    · exact hb ▸ hs ▸ hinc
    · exact .inr ⟨n, sol, hopen n hm.apply_mem, hr, hb⟩

theorem reach_solinv {root : ν} {top T : Nat} {c : Cfg ν σ} (hr : Reach root top T c) : SolInv root c :=
  hr.of_move solinv_init solinv_move

#print axioms reach_solinv

structure OptInv (root : ν) (c : Cfg ν σ) : Prop where
  sol : SolInv root c
  /-- the score stored with a queued node bounds everything feasible below it -/
  bnd : ∀ n ps, (n, ps) ∈ c.pending → ∀ f sc, Desc f n → IsFeas f sc → sc ≤ ps
  /-- every feasible node better than the incumbent is still ahead of us -/
  cover : ∀ f sc, Desc f root → IsFeas f sc → (c.best = none ∨ sc > c.bestScore) →
      ∃ n ∈ openNodes c, Desc f n

theorem optinv_init {root : ν} {top T : Nat}
    (htop : ∀ f sc, Desc f root → IsFeas f sc → sc ≤ top) : OptInv root (init root top T : Cfg ν σ) := by
  refine ⟨solinv_init, fun n ps h => ?_, fun f sc hd _ _ => ⟨root, List.mem_append_right _ (.head _), hd⟩⟩
  cases List.mem_singleton.1 h
  exact htop

/-- a move replaces the incumbent only by a better one -/
theorem Move.beats {c c' : Cfg ν σ} {a : Act ν} (hm : Move c c' a) {sc : Nat}
    (hg : c'.best = none ∨ sc > c'.bestScore) : c.best = none ∨ sc > c.bestScore := by
  rcases hm.incumbent with ⟨hb, hs⟩ | ⟨_, _, _, _, hb, hgt⟩
  · exact hb ▸ hs ▸ hg
  · exact hgt.imp_right fun h => Nat.lt_trans h (hg.resolve_left (hb ▸ nofun))

theorem optinv_move {root : ν} {c c' : Cfg ν σ} {a : Act ν} (hB : Bounded root) (h : OptInv root c)
    (hm : Move c c' a) : OptInv root c' := by
  refine ⟨solinv_move h.sol hm, fun k ps hk => ?_, fun f sc hd hf hg => ?_⟩
  ·
    rcases hm.mem_pending hk with hk | ⟨n, sc, rfl, hr, hk, rfl⟩
    · exact h.bnd k ps hk
    · -- a child of the applied inner node, queued with that node's score
      exact hB n ((solinv_iff.1 h.sol).1 n hm.apply_mem) _ hr _ hk
  · have ho := hm.open
    have hg0 := hm.beats hg
    obtain ⟨m, hm', hdm⟩ := h.cover f sc hd hf hg0
    cases hm with
    | neutral | pop => exact ⟨m, ho.symm.subset hm', hdm⟩
    | @bound k n ps hk hle =>
      rcases List.mem_cons.1 (ho.subset hm') with rfl | hm'
      · -- the popped node was bounded: nothing below it beats the incumbent
        have := h.bnd m ps (List.mem_of_getElem? hk) f sc hdm hf
        exact absurd (hg0.imp_right fun h => Nat.lt_of_lt_of_le h this) hle
      · exact ⟨m, hm', hdm⟩
    | @fail n hr =>
      rcases List.mem_cons.1 (ho.subset hm') with rfl | hm'
      · -- a node whose solver panics is a leaf and not feasible
        obtain ⟨sol, hsol⟩ := hf
        cases hrm : Solver.res m with
        | panic =>
          rcases desc_cases hdm with rfl | ⟨k, hk, _⟩
          · cases hrm.symm.trans hsol
          · obtain ⟨_, e, _⟩ := mem_pushed.1 hk; cases hrm.symm.trans e
        | _ => simp [hrm, isPanic] at hr
      · exact ⟨m, hm', hdm⟩
    | @apply n c₁ _ ha _ _ hb hs =>
      obtain ⟨r, h1, h2⟩ := ho
      rcases List.mem_cons.1 (h1.subset hm') with rfl | hm'
      · -- the node above `f` was applied: `f` is now below one of its children, unless it is that node
        rcases desc_cases hdm with rfl | ⟨k, hk, hdk⟩
        · -- which did not beat the incumbent, or is the incumbent
          obtain ⟨sol, hsol⟩ := hf
          rw [hb, hs] at hg
          cases ha with
          | keep _ hno => exact absurd hg0 (hno sol sc hsol)
          | improve hr => cases hr.symm.trans hsol; exact absurd (hg.resolve_left nofun) (Nat.lt_irrefl _)
          | branch hr => cases hr.symm.trans hsol
        · exact ⟨k, h2.symm.subset (List.mem_append_left _ hk), hdk⟩
      · exact ⟨m, h2.symm.subset (List.mem_append_right _ hm'), hdm⟩

theorem reach_optinv {root : ν} {top T : Nat} {c : Cfg ν σ} (hb : Bounded root)
    (htop : ∀ f sc, Desc f root → IsFeas f sc → sc ≤ top) (hr : Reach root top T c) : OptInv root c :=
  hr.of_move (optinv_init htop) (optinv_move hb)

/-- With nothing queued and nothing in flight the incumbent (a feasible node, by `SolInv.inc`) is at
    least as good as every feasible node of the tree. -/
theorem OptInv.optimal {root : ν} {c : Cfg ν σ} (h : OptInv root c) (hY : flying c.pcs = [])
    (hP : c.pending = []) {f : ν} {sc : Nat} (hd : Desc f root) (hf : IsFeas f sc) :
    c.best ≠ none ∧ sc ≤ c.bestScore := by
  apply Classical.byContradiction
  intro hn
  have hg : c.best = none ∨ sc > c.bestScore := by
    by_cases hb : c.best = none
    · exact .inl hb
    · exact .inr (Nat.lt_of_not_le fun hle => hn ⟨hb, hle⟩)
  obtain ⟨n, hm, _⟩ := h.cover f sc hd hf hg
  rw [openNodes, hY, hP] at hm; cases hm

theorem C09_final {root : ν} {top T : Nat} {c : Cfg ν σ} (hT : 0 < T) (hb : Bounded root)
    (htop : ∀ f sc, Desc f root → IsFeas f sc → sc ≤ top)
    (hr : Reach root top T c) (hd : AllDone c) :
    (∀ f sc, Desc f root → IsFeas f sc → c.best ≠ none ∧ sc ≤ c.bestScore) ∧
    (c.best = none ∨
      (∃ f sol, Desc f root ∧ Solver.res f = .feasible sol c.bestScore ∧ c.best = some sol)) :=
  ⟨fun _ _ => (reach_optinv hb htop hr).optimal (flying_of_allFinished hd.finished)
    (allDone_pending hT hr hd), (reach_solinv hr).inc⟩

theorem inc_le_opt {root : ν} {c₁ c₂ : Cfg ν σ}
    (h1 : c₁.best = none ∨
      (∃ f sol, Desc f root ∧ Solver.res f = .feasible sol c₁.bestScore ∧ c₁.best = some sol))
    (h2 : ∀ f sc, Desc f root → IsFeas f sc → c₂.best ≠ none ∧ sc ≤ c₂.bestScore)
    (hne : c₁.best ≠ none) : c₂.best ≠ none ∧ c₁.bestScore ≤ c₂.bestScore := by
  rcases h1 with h | ⟨f, sol, hd, hf, _⟩
  · exact absurd h hne
  · exact h2 f _ hd ⟨sol, hf⟩

theorem C03_engine {root : ν} {top T₁ T₂ : Nat} {c₁ c₂ : Cfg ν σ} (h1 : 0 < T₁) (h2 : 0 < T₂)
    (hb : Bounded root) (htop : ∀ f sc, Desc f root → IsFeas f sc → sc ≤ top)
    (hr1 : Reach root top T₁ c₁) (hd1 : AllDone c₁) (hr2 : Reach root top T₂ c₂) (hd2 : AllDone c₂) :
    (c₁.best = none ↔ c₂.best = none) ∧ (c₁.best ≠ none → c₁.bestScore = c₂.bestScore) := by
  obtain ⟨a1, b1⟩ := C09_final h1 hb htop hr1 hd1
  obtain ⟨a2, b2⟩ := C09_final h2 hb htop hr2 hd2
  refine ⟨⟨fun hn => ?_, fun hn => ?_⟩, fun hne => ?_⟩
  · exact Classical.byContradiction fun h => (inc_le_opt b2 a1 h).1 hn
  · exact Classical.byContradiction fun h => (inc_le_opt b1 a2 h).1 hn
  · have h12 := inc_le_opt b1 a2 hne
    exact Nat.le_antisymm h12.2 (inc_le_opt b2 a1 h12.1).2

#print axioms C09_final
#print axioms C03_engine
end Eng3
