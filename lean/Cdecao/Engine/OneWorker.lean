import Cdecao.Engine.Final
/-! One worker. `step?` leaves the order of the priority queue open: `top t k` may hand out any pending
    entry `k`. With a single program counter that is the only choice there is, so once the queue's
    behaviour is a function of the history (`pol`; `std::collections::BinaryHeap` is one) the run and
    its incumbent are determined. What C13 rests on after the reader: `BinaryHeap` and the node
    solver are functions of their inputs. -/
namespace Eng3
variable {ν σ : Type} [Solver ν σ]

theorem Step.top_lt {c c' : Cfg ν σ} {t k : Nat} (hs : Step c (.top t k) c') (hne : c.pending ≠ []) :
    k < c.pending.length := by
  cases hs with
  | topSolve _ hk | topBound _ hk => exact lt_of_getElem?_some hk
  | topWait _ he | topDone _ he => exact absurd he hne

/-- A thread's next step is determined by its program counter, except for the entry it pops:
    two enabled events of the same thread lead to the same configuration unless they are pops of
    two different pending entries. -/
theorem thread_step_det {c c1 c2 : Cfg ν σ} {e1 e2 : Ev} (ht : e1.thread = e2.thread)
    (h1 : step? c e1 = some c1) (h2 : step? c e2 = some c2) :
    c1 = c2 ∨ ∃ t k1 k2, e1 = .top t k1 ∧ e2 = .top t k2 ∧ k1 ≠ k2 ∧
      k1 < c.pending.length ∧ k2 < c.pending.length := by
  have same : e1 = e2 → c1 = c2 := fun e => Option.some.inj (h1.symm.trans (e ▸ h2))
  have s1 := step_of_step? h1
  have s2 := step_of_step? h2
  obtain ⟨pc, k1, _, hp1, he1, _⟩ := s1.shape
  obtain ⟨pc', k2, _, hp2, he2, _⟩ := s2.shape
  cases Option.some.inj ((ht ▸ hp1).symm.trans hp2)
  rw [ht] at he1
  generalize e2.thread = t at he1 he2
  cases pc with
  | holding =>
    cases Option.some.inj he1; cases Option.some.inj he2
    by_cases hne : c.pending = []
    · -- an empty queue is left the same way whatever index was asked for
      left
      have : step? c (.top t k1) = step? c (.top t k2) := by simp [step?, hne]
      exact Option.some.inj (h1.symm.trans (this ▸ h2))
    · by_cases hk : k1 = k2
      · exact .inl (same (by rw [hk]))
      · exact .inr ⟨_, k1, k2, rfl, rfl, hk, s1.top_lt hne, s2.top_lt hne⟩
  | done | dead => cases he1
  | _ => exact .inl (same (Option.some.inj (he1.symm.trans he2)))

theorem one_worker_step_det {c c1 c2 : Cfg ν σ} {e1 e2 : Ev} (hlen : c.pcs.length = 1)
    (h1 : step? c e1 = some c1) (h2 : step? c e2 = some c2) :
    c1 = c2 ∨ ∃ k1 k2, e1 = .top 0 k1 ∧ e2 = .top 0 k2 ∧ k1 ≠ k2 ∧ k1 < c.pending.length ∧ k2 < c.pending.length := by
  have t1 := step_thread_lt h1
  have t2 := step_thread_lt h2
  rw [hlen, Nat.lt_one_iff] at t1 t2
  rcases thread_step_det (t1.trans t2.symm) h1 h2 with h | ⟨t, k1, k2, rfl, rfl, h⟩
  · exact .inl h
  · cases t1; exact .inr ⟨k1, k2, rfl, rfl, h⟩

/-- does the event respect the queue's choice `p`? (only pops are constrained) -/
def okEv (p : Nat) : Ev → Bool
  | .top _ k => k == p
  | _ => true

/-- execute a list of events under the queue policy `pol` (the configurations visited so far ↦ the
    index popped next; the real heap's layout is a function of the pushes and pops so far, which
    the visited configurations determine) -/
def execP (pol : List (Cfg ν σ) → Nat) : List (Cfg ν σ) → Cfg ν σ → List Ev → Option (Cfg ν σ)
  | _, c, [] => some c
  | hist, c, e :: es =>
    if okEv (pol hist) e then
      match step? c e with
      | some c' => execP pol (hist ++ [c']) c' es
      | none => none
    else none

theorem execP_cons {pol : List (Cfg ν σ) → Nat} {hist : List (Cfg ν σ)} {c c' : Cfg ν σ} {e : Ev}
    {es : List Ev} : execP pol hist c (e :: es) = some c' ↔
      okEv (pol hist) e = true ∧ ∃ d, step? c e = some d ∧ execP pol (hist ++ [d]) d es = some c' := by
  simp only [execP]
  split
  · cases step? c e <;> simp [*]
  · simp [*]

theorem one_worker_step_pol {c c1 c2 : Cfg ν σ} {e1 e2 : Ev} (hlen : c.pcs.length = 1) (p : Nat)
    (f1 : okEv p e1 = true) (f2 : okEv p e2 = true)
    (h1 : step? c e1 = some c1) (h2 : step? c e2 = some c2) : c1 = c2 := by
  rcases one_worker_step_det hlen h1 h2 with h | ⟨k1, k2, rfl, rfl, hne, -, -⟩
  · exact h
  · simp only [okEv, beq_iff_eq] at f1 f2
    exact absurd (f1.trans f2.symm) hne

theorem one_worker_final_det (pol : List (Cfg ν σ) → Nat) :
    ∀ (es1 es2 : List Ev) (hist : List (Cfg ν σ)) (c c1 c2 : Cfg ν σ), c.pcs.length = 1 →
      execP pol hist c es1 = some c1 → execP pol hist c es2 = some c2 →
      AllFinished c1 → AllFinished c2 → c1 = c2
  | [], [], _, c, c1, c2, _, h1, h2, _, _ => Option.some.inj (h1.symm.trans h2)
  | [], e :: _, _, c, c1, c2, _, h1, h2, f1, _ => by
    cases Option.some.inj h1
    obtain ⟨_, d, hs, _⟩ := execP_cons.1 h2
    rw [finished_no_step f1 e] at hs; cases hs
  | e :: _, [], _, c, c1, c2, _, h1, h2, _, f2 => by
    cases Option.some.inj h2
    obtain ⟨_, d, hs, _⟩ := execP_cons.1 h1
    rw [finished_no_step f2 e] at hs; cases hs
  | e1 :: es1, e2 :: es2, hist, c, c1, c2, hlen, h1, h2, f1, f2 => by
    obtain ⟨ok1, d1, hs1, h1⟩ := execP_cons.1 h1
    obtain ⟨ok2, d2, hs2, h2⟩ := execP_cons.1 h2
    cases one_worker_step_pol hlen (pol hist) ok1 ok2 hs1 hs2
    exact one_worker_final_det pol es1 es2 (hist ++ [d1]) d1 c1 c2 ((step_len hs1).trans hlen) h1 h2 f1 f2

end Eng3
