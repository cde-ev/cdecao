import Cdecao.Engine.Core
/-! The lock invariant `LInv` of the worker loop: the lock field agrees with the program counters,
    `busy` counts the workers in flight, sleepers are never left without somebody who will notify
    them. It is inductive (`linv_step`), and under it a configuration in which some worker has not
    stopped has an enabled event that is not a wake-up (`exists_step`, C04 `no_deadlock`). -/
namespace Eng3
variable {ν σ : Type} [Solver ν σ]

structure LInv (c : Cfg ν σ) : Prop where
  /-- the lock field agrees with the program counters -/
  lock1 : ∀ t : Nat, c.lock = some t → ∃ pc, c.pcs[t]? = some pc ∧ holdsLock pc = true
  lock2 : ∀ (t : Nat) pc, c.pcs[t]? = some pc → holdsLock pc = true → c.lock = some t
  /-- busy_threads counts exactly the in-flight workers -/
  busy : c.busy = c.pcs.countP isFlight
  /-- "finished" state: every sleeper has been (or is about to be) notified -/
  fin : c.pending = [] → c.busy = 0 →
      (∀ (t : Nat), c.pcs[t]? ≠ some Pc.waiting) ∨ (∃ t : Nat, c.pcs[t]? = some Pc.afterPop) ∨
        (∃ t : Nat, c.pcs[t]? = some Pc.dying)
  /-- work is never left behind without somebody who will come back for it -/
  work : c.lock = none → c.pending ≠ [] →
      (∃ (t : Nat) (pc : Pc ν), c.pcs[t]? = some pc ∧ (isFlight pc = true ∨ pc = .want none)) ∨
      (∃ t : Nat, c.pcs[t]? = some Pc.dying) ∨ (∀ (t : Nat), c.pcs[t]? ≠ some Pc.waiting)
  /-- a worker only exits when everything is finished -/
  fin2 : ∀ (t : Nat), c.pcs[t]? = some Pc.done → c.pending = [] ∧ c.busy = 0

theorem can_step {c : Cfg ν σ} {t : Nat} {pc : Pc ν} (hp : c.pcs[t]? = some pc)
    (hlock : ∀ r, pc = .want r → c.lock = none) (hgo : ¬ (pc = .waiting ∨ pc = .done ∨ pc = .dead)) :
    ∃ ev c', ev.isWake = false ∧ Step c ev c' := by
  cases pc with
  | want r =>
    have hl := hlock r rfl
    cases r with
    | none => exact ⟨.acquire t, _, rfl, .acquireIdle hl hp⟩
    | some n =>
      cases hr : isPanic (Solver.res n) with
      | true => exact ⟨.acquire t, _, rfl, .acquirePanic hl hp hr⟩
      | false => exact ⟨.acquire t, _, rfl, .acquireApply hl hp hr (applied c n)⟩
  | holding =>
    -- the loop top with `k = 0` is always enabled
    cases hk : c.pending[0]? with
    | some np =>
      by_cases hgt : c.best = none ∨ np.2 > c.bestScore
      · exact ⟨.top t 0, _, rfl, .topSolve hp hk hgt⟩
      · exact ⟨.top t 0, _, rfl, .topBound hp hk hgt⟩
    | none =>
      have he : c.pending = [] := List.length_eq_zero_iff.1 (Nat.le_zero.1 (List.getElem?_eq_none_iff.1 hk))
      by_cases hb : c.busy > 0
      · exact ⟨.top t 0, _, rfl, .topWait hp he hb⟩
      · exact ⟨.top t 0, _, rfl, .topDone hp he (Nat.eq_zero_of_not_pos hb)⟩
  | afterPop =>
    by_cases hf : c.pending = [] ∧ c.busy = 0
    · exact ⟨.after t, _, rfl, .afterFinish hp hf.1 hf.2⟩
    · exact ⟨.after t, _, rfl, .afterContinue hp hf⟩
  | solving n => exact ⟨.solve t, _, rfl, .solve hp⟩
  | dying => exact ⟨.die t, _, rfl, .die hp⟩
  | waiting => exact absurd (.inl rfl) hgo
  | done => exact absurd (.inr (.inl rfl)) hgo
  | dead => exact absurd (.inr (.inr rfl)) hgo

theorem exists_step {c : Cfg ν σ} (h : LInv c) (hnd : ¬ AllFinished c) :
    ∃ ev c', ev.isWake = false ∧ step? c ev = some c' := by
  suffices ∃ ev c', ev.isWake = false ∧ Step c ev c' from
    this.elim fun ev ⟨c', hw, hs⟩ => ⟨ev, c', hw, step?_eq_some_iff.2 hs⟩
  cases hl : c.lock with
  | some t =>
    -- whoever holds the lock can go on
    obtain ⟨pc, hpc, hh⟩ := h.lock1 t hl
    exact can_step hpc (by rintro r rfl; cases hh) (by rintro (rfl | rfl | rfl) <;> cases hh)
  | none =>
    -- the lock is free: if nobody could step, every thread would be asleep or stopped
    apply Classical.byContradiction
    intro hno
    have stuck : ∀ (t : Nat) pc, c.pcs[t]? = some pc → pc = .waiting ∨ pc = .done ∨ pc = .dead :=
      fun t pc hp => Classical.byContradiction fun hn => hno (can_step hp (fun _ _ => hl) hn)
    have hb0 : c.busy = 0 := by
      rw [h.busy, List.countP_eq_zero]
      exact forall_getElem?_iff.1 fun i pc hi => by rcases stuck i pc hi with rfl | rfl | rfl <;> simp [isFlight]
    -- then nobody is in flight, and the invariant says that nobody has been left asleep
    have nowait : ∀ t : Nat, c.pcs[t]? ≠ some Pc.waiting := by
      by_cases hp : c.pending = []
      · rcases h.fin hp hb0 with hw | ⟨u, hu⟩ | ⟨u, hu⟩
        · exact hw
        · rcases stuck u _ hu with e | e | e <;> cases e
        · rcases stuck u _ hu with e | e | e <;> cases e
      · rcases h.work hl hp with ⟨u, q, hq, hq'⟩ | ⟨u, hu⟩ | hw
        · rcases stuck u q hq with rfl | rfl | rfl <;> rcases hq' with e | e <;> cases e
        · rcases stuck u _ hu with e | e | e <;> cases e
        · exact hw
    exact hnd fun t pc hp => (stuck t pc hp).resolve_left fun e => nowait t (e ▸ hp)

/-- In every configuration satisfying the invariant that is not finished, some thread can take a
    real (non wake-up) step: no deadlock, no lost wake-up. -/
theorem no_deadlock {c : Cfg ν σ} (h : LInv c) (hnd : ¬ AllFinished c) :
    ∃ ev, ev.isWake = false ∧ (step? c ev).isSome = true :=
  let ⟨ev, _, hw, hs⟩ := exists_step h hnd
  ⟨ev, hw, hs ▸ rfl⟩

omit [Solver ν σ] in
theorem linv_init {root : ν} {top T : Nat} (hT : 0 < T) : LInv (init root top T : Cfg ν σ) := by
  refine ⟨?_, ?_, ?_, ?_, ?_, ?_⟩
  · intro t h; simp [init] at h
  · intro t pc h hh
    simp [init, List.getElem?_replicate] at h
    obtain ⟨_, rfl⟩ := h
    simp [holdsLock] at hh
  · simp [init, List.countP_replicate, isFlight]
  · intro h; simp [init] at h
  · intro _ _
    exact Or.inl ⟨0, .want none, by simp [init, hT], Or.inr rfl⟩
  · intro t h
    simp [init, List.getElem?_replicate] at h

/-- the lock field agrees with the program counters (`LInv.lock1`, `LInv.lock2`) -/
def LockOK (pcs : List (Pc ν)) (lock : Option Nat) : Prop :=
  (∀ t : Nat, lock = some t → ∃ pc, pcs[t]? = some pc ∧ holdsLock pc = true) ∧
  (∀ (t : Nat) pc, pcs[t]? = some pc → holdsLock pc = true → lock = some t)

section lock
variable {pcs : List (Pc ν)} {lock : Option Nat} {t : Nat} {old : Pc ν}

theorem LockOK.wakeAll (h : LockOK pcs lock) : LockOK (wakeAll pcs) lock := by
  refine ⟨fun u hu => ?_, fun u pc hpc hh => ?_⟩
  · obtain ⟨pc, hpc, hh⟩ := h.1 u hu
    exact ⟨pc, wakeAll_getElem?_of hpc (by rintro rfl; cases hh), hh⟩
  · rcases (of_wakeAll_getElem? hpc).2 with rfl | hpc
    · cases hh
    · exact h.2 u pc hpc hh

/-- a thread that holds no lock takes the free lock -/
theorem LockOK.acquire {new : Pc ν} (h : LockOK pcs lock) (hp : pcs[t]? = some old)
    (hfree : lock = none) (hnew : holdsLock new = true) : LockOK (pcs.set t new) (some t) := by
  refine ⟨fun u hu => ?_, fun u pc hpc hh => ?_⟩
  · cases hu; exact ⟨new, getElem?_set_self_of hp, hnew⟩
  · rcases getElem?_set_of hpc with ⟨rfl, _⟩ | ⟨_, hpc⟩
    · rfl
    · cases hfree.symm.trans (h.2 u pc hpc hh)

/-- the holder gives the lock up -/
theorem LockOK.release {new : Pc ν} (h : LockOK pcs lock) (hp : pcs[t]? = some old)
    (hold : holdsLock old = true) (hnew : holdsLock new = false) : LockOK (pcs.set t new) none := by
  refine ⟨fun u hu => (nomatch hu), fun u pc hpc hh => ?_⟩
  rcases getElem?_set_of hpc with ⟨_, rfl⟩ | ⟨hne, hpc⟩
  · rw [hnew] at hh; cases hh
  · cases (h.2 t old hp hold).symm.trans (h.2 u pc hpc hh); exact absurd rfl hne

/-- a pc change that neither takes nor gives up the lock -/
theorem LockOK.keep {new : Pc ν} (h : LockOK pcs lock) (hp : pcs[t]? = some old)
    (he : holdsLock new = holdsLock old) : LockOK (pcs.set t new) lock := by
  refine ⟨fun u hu => ?_, fun u pc hpc hh => ?_⟩
  · obtain ⟨pc, hpc, hh⟩ := h.1 u hu
    by_cases e : u = t
    · subst e; cases hpc.symm.trans hp
      exact ⟨new, getElem?_set_self_of hp, he.trans hh⟩
    · exact ⟨pc, by rw [List.getElem?_set_ne (Ne.symm e), hpc], hh⟩
  · rcases getElem?_set_of hpc with ⟨rfl, rfl⟩ | ⟨_, hpc⟩
    · exact h.2 _ old hp (he.symm.trans hh)
    · exact h.2 u pc hpc hh

theorem busy_set {b b' : Nat} {new : Pc ν} (hb : b = pcs.countP isFlight) (hp : pcs[t]? = some old)
    (h : b' + (if isFlight old then 1 else 0) = b + (if isFlight new then 1 else 0)) :
    b' = (pcs.set t new).countP isFlight := by
  have := countP_set_of_getElem? isFlight hp new
  omega
end lock

omit [Solver ν σ] in
theorem LInv.busy_pos {c : Cfg ν σ} (h : LInv c) {t : Nat} {pc : Pc ν} (hp : c.pcs[t]? = some pc)
    (hf : isFlight pc = true) : 0 < c.busy :=
  h.busy ▸ List.countP_pos_iff.2 ⟨pc, List.mem_of_getElem? hp, hf⟩

/-- Every step is one pc change `old → new` of one thread: the lock clauses follow from how `old`
    and `new` stand to the lock (`LockOK.keep`/`acquire`/`release`), the count from `busy_set`; the
    three clauses about sleepers and finished workers are read off the guards of the step. -/
theorem linv_step {c c' : Cfg ν σ} {ev : Ev} (h : LInv c) (hs : step? c ev = some c') : LInv c' := by
  have L : LockOK c.pcs c.lock := ⟨h.lock1, h.lock2⟩
  have mk := fun {d : Cfg ν σ} (L' : LockOK d.pcs d.lock) => LInv.mk L'.1 L'.2
  have B := h.busy
  have BW := (countP_wakeAll isFlight rfl c.pcs).symm ▸ h.busy
  -- a worker that has exited: none appears unless `new` is one, and the old ones vouch for `Q`
  have fin2 : ∀ {t : Nat} {new : Pc ν} {Q : Prop}, new ≠ .done → (c.pending = [] ∧ c.busy = 0 → Q) →
      ∀ u : Nat, (c.pcs.set t new)[u]? = some .done → Q := by
    intro t new Q hne hq u hu
    rcases getElem?_set_of hu with ⟨_, e⟩ | ⟨_, hu⟩
    · exact absurd e.symm hne
    · exact hq (h.fin2 u hu)
  have nowait : ∀ {l : List (Pc ν)} {t : Nat} {new : Pc ν}, new ≠ .waiting →
      (∀ u : Nat, l[u]? ≠ some .waiting) → ∀ u : Nat, (l.set t new)[u]? ≠ some .waiting := by
    intro l t new hne hw u hu
    rcases getElem?_set_of hu with ⟨_, e⟩ | ⟨_, hu⟩
    · exact hne e.symm
    · exact hw u hu
  have woken : ∀ u : Nat, (wakeAll c.pcs)[u]? ≠ some .waiting := fun u hu => (of_wakeAll_getElem? hu).1 rfl
  -- the sleepers keep their guarantee when the thread that moves is not the one vouching for them
  -- and does not fall asleep
  have fin : ∀ {t : Nat} {old new : Pc ν}, c.pcs[t]? = some old → .afterPop ≠ old → .dying ≠ old →
      new ≠ .waiting → c.pending = [] → c.busy = 0 →
      (∀ u : Nat, (c.pcs.set t new)[u]? ≠ some .waiting) ∨
        (∃ u : Nat, (c.pcs.set t new)[u]? = some .afterPop) ∨ ∃ u : Nat, (c.pcs.set t new)[u]? = some .dying := by
    intro t old new hp ha hd hn hp0 hb0
    rcases h.fin hp0 hb0 with hw | ⟨u, hu⟩ | ⟨u, hu⟩
    · exact .inl (nowait hn hw)
    · exact .inr (.inl ⟨u, getElem?_set_keep hp hu ha⟩)
    · exact .inr (.inr ⟨u, getElem?_set_keep hp hu hd⟩)
  cases step_of_step? hs with
  | @wake t hp =>
    exact mk (L.keep hp rfl) (busy_set B hp rfl) (fin hp nofun nofun nofun)
      (fun _ _ => .inl ⟨t, _, getElem?_set_self_of hp, .inr rfl⟩) (fin2 (by simp) id)
  | @solve t n hp =>
    exact mk (L.keep hp rfl) (busy_set B hp rfl)
      (fun _ hb0 => absurd hb0 (Nat.ne_of_gt (h.busy_pos hp rfl)))
      (fun _ _ => .inl ⟨t, _, getElem?_set_self_of hp, .inl rfl⟩) (fin2 (by simp) id)
  | @acquireIdle t hl hp =>
    exact mk (L.acquire hp hl rfl) (busy_set B hp rfl) (fin hp nofun nofun nofun)
      (fun hl' => nomatch hl') (fin2 (by simp) id)
  | @acquirePanic t n hl hp hr =>
    have := h.busy_pos hp rfl
    exact mk (L.keep hp rfl) (busy_set B hp (Nat.sub_add_cancel this))
      (fun _ _ => .inr (.inr ⟨t, getElem?_set_self_of hp⟩))
      (fun _ _ => .inr (.inl ⟨t, getElem?_set_self_of hp⟩))
      (fin2 (by simp) fun hd => absurd hd.2 (Nat.ne_of_gt this))
  | @acquireApply t n c₁ hl hp hr ha =>
    have := h.busy_pos hp rfl
    exact mk (L.acquire hp hl rfl)
      (busy_set B hp (ha.frame.2.2 ▸ Nat.sub_add_cancel this))
      (fun _ _ => .inr (.inl ⟨t, getElem?_set_self_of hp⟩)) (fun hl' => nomatch hl')
      (fin2 (by simp) fun hd => absurd hd.2 (Nat.ne_of_gt this))
  | @topSolve t k n ps hp hk hgt =>
    exact mk (L.release hp rfl rfl) (busy_set B hp rfl)
      (fun _ hb => nomatch hb) (fun _ _ => .inl ⟨t, _, getElem?_set_self_of hp, .inl rfl⟩)
      (fin2 (by simp) fun hd => by rw [hd.1] at hk; cases hk)
  | @topBound t k n ps hp hk hle =>
    exact mk (L.keep hp rfl) (busy_set B hp rfl)
      (fun _ _ => .inr (.inl ⟨t, getElem?_set_self_of hp⟩))
      (fun hl' => nomatch (h.lock2 t _ hp rfl).symm.trans hl')
      (fin2 (by simp) fun hd => by rw [hd.1] at hk; cases hk)
  | @topWait t k hp he hb =>
    exact mk (L.release hp rfl rfl) (busy_set B hp rfl)
      (fun _ hb0 => absurd hb0 (Nat.ne_of_gt hb)) (fun _ hne => absurd he hne)
      (fin2 (by simp) fun hd => absurd hd.2 (Nat.ne_of_gt hb))
  | @topDone t k hp he hb =>
    exact mk (L.release hp rfl rfl) (busy_set B hp rfl) (fin hp nofun nofun nofun)
      (fun _ hne => absurd he hne) (fun _ _ => ⟨he, hb⟩)
  | @afterFinish t hp he hb =>
    have hp' := wakeAll_getElem?_of hp (by simp)
    exact mk (L.wakeAll.release hp' rfl rfl) (busy_set BW hp' rfl)
      (fun _ _ => .inl (nowait (by simp) woken)) (fun _ hne => absurd he hne) (fun _ _ => ⟨he, hb⟩)
  | @afterContinue t hp hne =>
    exact mk (L.keep hp rfl) (busy_set B hp rfl)
      (fun hp0 hb0 => absurd ⟨hp0, hb0⟩ hne) (fun hl' => nomatch (h.lock2 t _ hp rfl).symm.trans hl')
      (fin2 (by simp) fun hd => absurd hd hne)
  | @die t hp =>
    have hp' := wakeAll_getElem?_of hp (by simp)
    refine mk (L.wakeAll.keep hp' rfl) (busy_set BW hp' rfl)
      (fun _ _ => .inl (nowait (by simp) woken)) (fun _ _ => .inr (.inr (nowait (by simp) woken))) (fun u hu => ?_)
    rcases getElem?_set_of hu with ⟨_, e⟩ | ⟨_, hu⟩
    · cases e
    · rcases (of_wakeAll_getElem? hu).2 with e | hu
      · cases e
      · exact h.fin2 u hu

theorem reach_len {root : ν} {top T : Nat} {c : Cfg ν σ} (hr : Reach root top T c) : c.pcs.length = T := by
  induction hr with
  | init => simp [init]
  | step _ hs ih => rw [step_len hs, ih]

theorem reach_linv {root : ν} {top T : Nat} {c : Cfg ν σ} (hT : 0 < T) (hr : Reach root top T c) : LInv c := by
  induction hr with
  | init => exact linv_init hT
  | step _ hs ih => exact linv_step ih hs

omit [Solver ν σ] in
theorem LInv.busy_zero {c : Cfg ν σ} (h : LInv c) (hf : AllFinished c) : c.busy = 0 := by
  rw [h.busy, hf.countP_congr (q := fun _ => false) rfl rfl]
  exact congrFun List.countP_false _

theorem allDone_pending {root : ν} {top T : Nat} {c : Cfg ν σ} (hT : 0 < T) (hr : Reach root top T c)
    (hd : AllDone c) : c.pending = [] := by
  have hlt : 0 < c.pcs.length := by rw [reach_len hr]; exact hT
  have hx : c.pcs[0]? = some c.pcs[0] := List.getElem?_eq_getElem hlt
  exact ((reach_linv hT hr).fin2 0 (by rw [hx, hd 0 _ hx])).1

theorem C04_no_deadlock {root : ν} {top T : Nat} {c : Cfg ν σ} (hT : 0 < T)
    (hr : Reach root top T c) (hnd : ¬ AllFinished c) :
    ∃ ev, ev.isWake = false ∧ (step? c ev).isSome = true :=
  no_deadlock (reach_linv hT hr) hnd

#print axioms C04_no_deadlock

end Eng3
