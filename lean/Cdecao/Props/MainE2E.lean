import Cdecao.Props.Main
import Cdecao.Proofs.SimpleShape
import Cdecao.Props.C05E2E
import Cdecao.Props.C01
import Cdecao.Props.C08
import Cdecao.Props.C10
import Cdecao.Props.C02
/-! The whole program, main ∘ reader ∘ search ∘ writer ∘ exit status: the front of `main`
    (`MainM.front`) composed with the end-to-end theorems of reader, search and writer. -/
namespace Props
open CD N2 Eng3

/-- the whole program on the CdE path: for EVERY command line and environment on which the front of
    `main` passes with `--cde` (whatever the options, the rooms input, the export), with at least one
    CPU reported: the problem handed to the solver is the one `CD.read` built from the input
    document with the parsed `--track`, and the worker count is positive; the parallel search has a
    run from its initial configuration — no wake-up needed, within the explicit bound — after which
    every worker has returned normally and `solve` returns normally; what `main` then writes is
    nothing or an import file satisfying every clause of C05 and C11; the exit status is 0 if a
    solution was found and 1 otherwise (absent output faults). The only hypotheses left are the two
    of `C05_total_from_start` about the export itself (`ChoiceLen`: at most 50001 choices per
    registration; `NodupKeys`: course keys distinct as numbers) -/
theorem main_cde_total {o : MainM.Opts} {e : MainM.Env} {pb : MainM.Problem}
    (h : MainM.front o e = .ok pb) (hc : o.cde = true) (hcpu : 0 < e.cpus) :
    ∃ (j : JS.J) (track : Option Nat) (ps : List CD.Part) (cs : List CD.Course) (amb : Ambience),
      e.input = .doc j ∧ MainM.parseTrack o.track = .ok track ∧ pb.data = .cde ps cs amb ∧ 0 < pb.threads ∧
      CD.read j { track := track, ignoreCancelled := o.ignoreCancelled, ignoreAssigned := o.ignoreAssigned,
                  factorField := o.factorField, offsetField := o.offsetField } = .ok (ps, cs, amb) ∧
      ∀ (_ : ChoiceLen j amb) (_ : NodupKeys j) (R : RoomFns) (top : Nat),
        letI := solverOf (toInstR ps cs pb.rooms) R
        ∃ (evs : List Ev) (c : Cfg Node (List (Option Nat))),
          Run (init rootNode top pb.threads) evs c ∧ (∀ ev ∈ evs, ev.isWake = false) ∧
          AllFinished c ∧ AllDone c ∧
          evs.length ≤ 5 * treeSize (toInstR ps cs pb.rooms) R rootNode + 3 * pb.threads + 3 * (pb.threads * pb.threads) ∧
          outcome c.pcs = some false ∧
          WrittenConsistent j { track := track, ignoreCancelled := o.ignoreCancelled, ignoreAssigned := o.ignoreAssigned,
                                factorField := o.factorField, offsetField := o.offsetField } ps cs amb c.best ∧
          (MainM.run o e (fun _ => c.best.isSome) true true).exit = (if c.best.isSome then 0 else 1) := by
  obtain ⟨j, track, ps, cs, amb, hj, ht, hrd, hdata, -⟩ := C15_main_cde h hc
  have hthr := C10_main_threads h hcpu
  refine ⟨j, track, ps, cs, amb, hj, ht, hdata, hthr, hrd, ?_⟩
  intro hlen hkeys R top
  obtain ⟨evs, c, hrun, hwf, hfin, hdone, hle, hout, hw⟩ :=
    C05_total_from_start hrd hlen hkeys pb.rooms R top hthr
  refine ⟨evs, c, hrun, hwf, hfin, hdone, hle, hout, hw, ?_⟩
  exact MainM.run_exit_ok h _

/-! `SM.accepts` (reader + `check_data_consistency` + at least one participant) is all that `main`
checks; the validity conditions of the property list beyond that (each participant instructs at
most one course and is listed once, no course twice in a choice list, the penalty bound, some
participant with choices) are the hypothesis `validb`, the decidable predicate the check evaluates
on every generated input. -/

/-- the whole program on the simple format: for every command line and environment on which the
    front of `main` passes without `--cde`, with at least one CPU reported, and a VALID instance:
    no subproblem makes the node solver panic; the search has a wake-free run from the start, within
    the explicit bound, after which every worker has returned normally and `solve` returns normally;
    the incumbent, if any, has one entry per participant, satisfies the hard constraints and carries
    its documented score; the exit status is 0 with a solution and 1 without (absent output
    faults) -/
theorem main_simple_total {o : MainM.Opts} {e : MainM.Env} {pb : MainM.Problem}
    (h : MainM.front o e = .ok pb) (hc : o.cde = false) (hcpu : 0 < e.cpus) :
    ∃ (j : JS.J) (ps : List SM.PartD) (cs : List SM.CourseD),
      e.input = .doc j ∧ SM.read j = .ok (ps, cs) ∧ pb.data = .simple ps cs ∧ SM.accepts j = true ∧ 0 < pb.threads ∧
      ∀ (_ : validb (SM.toInst ps cs pb.rooms) = true) (R : RoomFns) (top : Nat),
        letI := solverOf (SM.toInst ps cs pb.rooms) R
        (∀ n : Node, Desc n rootNode → isPanic (Solver.res n : Res (List (Option Nat))) = false) ∧
        ∃ (evs : List Ev) (c : Cfg Node (List (Option Nat))),
          Run (init rootNode top pb.threads) evs c ∧ (∀ ev ∈ evs, ev.isWake = false) ∧ AllDone c ∧
          evs.length ≤ 5 * treeSize (SM.toInst ps cs pb.rooms) R rootNode + 3 * pb.threads + 3 * (pb.threads * pb.threads) ∧
          outcome c.pcs = some false ∧
          (∀ al, c.best = some al → al.length = ps.length ∧
            ∃ a : Nat → Option Nat, al = (List.range ps.length).map a ∧
              G.hardOKb (SM.toInst ps cs pb.rooms) a = true ∧ c.bestScore = G.scoreOfL (SM.toInst ps cs pb.rooms) a) ∧
          (MainM.run o e (fun _ => c.best.isSome) true true).exit = (if c.best.isSome then 0 else 1) := by
  obtain ⟨j, ps, cs, hj, hrd, hdata, hacc⟩ := C15_main_simple h hc
  have hthr := C10_main_threads h hcpu
  refine ⟨j, ps, cs, hj, hrd, hdata, hacc, hthr, ?_⟩
  intro hv R top
  let S := solverOf (SM.toInst ps cs pb.rooms) R
  have hs := validb_sound _ hv
  have hnp : ∀ n : Node, Desc n rootNode → isPanic (Solver.res n : Res (List (Option Nat))) = false :=
    fun n hd => isPanic_eq_false_iff.2 (C10_tree (SM.toInst ps cs pb.rooms) R hs.1.toInstOK hs.2.1 n hd)
  refine ⟨hnp, ?_⟩
  obtain ⟨evs, c, hrun, hwf, hd, hle, hout⟩ :=
    terminates_done_init (fun n : Node => 5 * treeSize (SM.toInst ps cs pb.rooms) R n)
      (caobab_budget_treeSize (SM.toInst ps cs pb.rooms) R) top hthr hnp
  have hr : Reach rootNode top pb.threads c := reach_iff_run.2 ⟨_, hrun⟩
  have hP := SM.toInst_P ps cs pb.rooms
  refine ⟨evs, c, hrun, hwf, hd, hle, hout, ?_, ?_⟩
  · intro al hal
    obtain ⟨hl, -⟩ := C01_valid _ R hv top pb.threads c hr al hal
    obtain ⟨a, h1, h2, h3⟩ := C08_score_valid _ R hv top pb.threads c hr al hal
    rw [hP] at hl h1
    exact ⟨hl, a, h1, h2, h3⟩
  · exact MainM.run_exit_ok h _

/-- the whole program, optimality (C02 at program level): simple format, no room option, a valid
    instance outside the class of the known finding F1 (`noFreeableb`). Whenever the search has ended
    with all workers returned (any thread count the front delivers, any schedule), the exit status
    is 1 ONLY IF no assignment satisfies the hard constraints, and with status 0 the reported
    assignment satisfies them, its score is its documented score and no assignment satisfying the
    hard constraints scores more -/
theorem main_simple_optimal {o : MainM.Opts} {e : MainM.Env} {pb : MainM.Problem}
    (h : MainM.front o e = .ok pb) (hc : o.cde = false) (hcpu : 0 < e.cpus)
    (hr1 : o.rooms = none) (hr2 : o.roomsFile = false) :
    ∃ (j : JS.J) (ps : List SM.PartD) (cs : List SM.CourseD),
      e.input = .doc j ∧ SM.read j = .ok (ps, cs) ∧ pb.data = .simple ps cs ∧ pb.rooms = none ∧
      ∀ (_ : validb (SM.toInst ps cs none) = true) (_ : noFreeableb (SM.toInst ps cs none) = true)
        (R : RoomFns) (top : Nat) (_ : ps.length * G.W ≤ top),
        letI := solverOf (SM.toInst ps cs none) R
        ∀ c : Cfg Node (List (Option Nat)), Reach rootNode top pb.threads c → AllDone c →
          ((MainM.run o e (fun _ => c.best.isSome) true true).exit = 1 →
              ∀ a, G.hardOKb (SM.toInst ps cs none) a = false) ∧
          ((MainM.run o e (fun _ => c.best.isSome) true true).exit = 0 →
              ∃ (al : List (Option Nat)) (a : Nat → Option Nat), c.best = some al ∧
                al = (List.range ps.length).map a ∧ G.hardOKb (SM.toInst ps cs none) a = true ∧
                c.bestScore = G.scoreOfL (SM.toInst ps cs none) a ∧
                ∀ a', G.hardOKb (SM.toInst ps cs none) a' = true → G.scoreOfL (SM.toInst ps cs none) a' ≤ c.bestScore) := by
  obtain ⟨j, ps, cs, hj, hrd, hdata, -⟩ := C15_main_simple h hc
  have hthr := C10_main_threads h hcpu
  have hnr := front_no_rooms h hr1 hr2
  refine ⟨j, ps, cs, hj, hrd, hdata, hnr, ?_⟩
  intro hv hnf R top htop c hr hd
  have hP := SM.toInst_P ps cs none
  obtain ⟨h1, h2⟩ := C02_partial (SM.toInst ps cs none) R rfl hv hnf top pb.threads hthr (by rw [hP]; exact htop) c hr hd
  rw [MainM.run_exit_ok h]
  rcases Option.eq_none_or_eq_some c.best with hb | ⟨al, hb⟩
  · exact ⟨fun _ => h1 hb, fun h0 => by simp [hb] at h0⟩
  · refine ⟨fun h1' => by simp [hb] at h1', fun _ => ?_⟩
    obtain ⟨a, ha, hh, hs, hopt⟩ := h2 al hb
    rw [hP] at ha
    exact ⟨al, a, hb, ha, hh, hs, hopt⟩

end Props
