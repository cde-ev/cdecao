import Cdecao.Engine.OneWorker
/-! # C13, after the reader: one worker leaves nothing to chance but the queue

`C13_read` (Props/C13.lean) gives equal problems for `Agree`ing exports; the search on equal
problems is the same transition system (same solver, same root). With ONE worker that system has no
scheduling freedom at all: the worker never sleeps (`C13_one_worker_never_waits`: no wake-up choice,
no spurious wake-up), at most one kind of event is enabled, and two enabled events differ only in
WHICH pending entry the priority queue hands out (`C13_one_worker_step`). So for any fixed behaviour
of the queue — `pol`, a function of the configurations visited so far, as
`std::collections::BinaryHeap` is — every complete run ends in the same configuration: same
incumbent, hence the same written assignments and course segments (`C13_one_worker_outcome`). What
remains trusted after the reader is that `BinaryHeap` and the node solver are functions of their
inputs. -/
namespace Props
open Eng3

theorem C13_one_worker_step {ν σ : Type} [Solver ν σ] {c c1 c2 : Cfg ν σ} {e1 e2 : Ev}
    (hlen : c.pcs.length = 1) (h1 : step? c e1 = some c1) (h2 : step? c e2 = some c2) :
    c1 = c2 ∨ ∃ k1 k2, e1 = .top 0 k1 ∧ e2 = .top 0 k2 ∧ k1 ≠ k2 ∧ k1 < c.pending.length ∧ k2 < c.pending.length :=
  one_worker_step_det hlen h1 h2

/-- the single worker never sleeps: `waiting` is unreachable, so neither a wake-up choice nor a
    spurious wake-up exists with one worker -/
theorem C13_one_worker_never_waits {ν σ : Type} [Solver ν σ] {root : ν} {top : Nat} {c : Cfg ν σ}
    (hr : Reach root top 1 c) : c.pcs[0]? ≠ some Pc.waiting := by
  intro hw
  -- a lone sleeper would be a deadlock: the only event it can perform is its own wake-up
  obtain ⟨ev, c', hwake, hs⟩ := exists_step (reach_linv Nat.one_pos hr)
    fun hf => by rcases hf 0 _ hw with e | e <;> cases e
  obtain ⟨old, k, _, hp, hev, _⟩ := (step_of_step? hs).shape
  have ht : ev.thread = 0 := Nat.lt_one_iff.1 (reach_len hr ▸ step_thread_lt hs)
  rw [ht] at hp hev
  cases hp.symm.trans hw
  cases hev
  cases hwake

/-- one worker, any fixed queue behaviour: two complete runs of the search end in the same
    configuration, in particular with the same incumbent and score -/
theorem C13_one_worker_outcome {ν σ : Type} [Solver ν σ] (root : ν) (top : Nat)
    (pol : List (Cfg ν σ) → Nat) (es1 es2 : List Ev) (c1 c2 : Cfg ν σ)
    (h1 : execP pol [] (init root top 1) es1 = some c1) (h2 : execP pol [] (init root top 1) es2 = some c2)
    (f1 : AllFinished c1) (f2 : AllFinished c2) :
    c1 = c2 ∧ c1.best = c2.best ∧ c1.bestScore = c2.bestScore := by
  have := one_worker_final_det pol es1 es2 [] (init root top 1) c1 c2 (by simp [init]) h1 h2 f1 f2
  subst this
  exact ⟨rfl, rfl, rfl⟩

/-! non-vacuity: a complete one-worker run of a one-node tree under the policy "always index 0" -/
namespace OW
instance : Solver Unit Nat := ⟨fun _ => .feasible 7 3, fun _ => []⟩
example : ∃ c : Cfg Unit Nat,
    execP (fun _ => 0) [] (init () 0 1) [.acquire 0, .top 0 0, .solve 0, .acquire 0, .after 0] = some c ∧
    c.best = some 7 ∧ c.pcs = [Pc.done] := ⟨_, rfl, rfl, rfl⟩
end OW

end Props
