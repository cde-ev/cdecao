import Cdecao.Props.C02F1  -- bin/config.py audits the F1 witness from this module
import Cdecao.Proofs.NodeOpt
import Cdecao.Engine.BabOpt
import Cdecao.Proofs.NodeSpecAsm
import Cdecao.Proofs.SpecExec
/-! # C02 — without room limits the result is optimal; "no solution" means none exists

The full statement is FALSE for the code (known finding F1: the branching never cancels a course
in order to free its instructor). Class outside F1: `NoFreeable I` — a participant with own
choices instructs only fixed courses. In that class every clause of the node specification holds
for `runNodeS` on the nodes the search can produce (`Eng3.NodeSpecOn` relative to `N2.TreeOK`:
`NodeOK2` and no course enforced twice; off the tree the clauses are not claimed, and the
unrelativised `Eng3.NodeSpec` of `C02_compose` is not instantiated for caobab);
`Eng3.bab_optimal_on` composes them into optimality of the finished parallel search for every
thread count and schedule (`N2.C02_partial`). `SolIn I nd a`: `a` satisfies the hard constraints and
the restrictions of node `nd`. -/
namespace Props
open N2 H2 Finset

theorem C02_node_bound (I : Inst) (nd : Node) (hI : InstOK2 I)
    (hmm : ∀ c, c < I.C → (I.course c).numMin ≤ (I.course c).numMax) (hn2 : NodeOK2 I nd) (hnf : NoFreeable I)
    (hg : guards I nd = none) (mm : Vec Nat) (hsc : Int) (hrun : H2.run (nodeInp I nd) = some (mm, hsc))
    (a : Nat → Option Nat) (hs : SolIn I nd a) : G.scoreOf I a ≤ hsc.toNat + bonusOf I nd :=
  node_bound I nd hI hmm hn2 hnf hg mm hsc hrun a hs

theorem C02_node_mono (I : Inst) (R : RoomFns) (nd : Node) (kids : List Node) (sc : Nat)
    (h : runNodeS I R nd = .ok (.infeasible kids sc)) (k : Node) (hk : k ∈ kids) (a : Nat → Option Nat)
    (hs : SolIn I k a) : SolIn I nd a :=
  node_mono I R nd kids sc h k hk a hs

theorem C02_cover (I : Inst) (nd : Node) (a : Nat → Option Nat) (hs : SolIn I nd a) (c : Nat) (hc : c < I.C) :
    SolIn I { nd with enforced := nd.enforced ++ [c] } a ∨
    ((I.course c).fixed = false ∧ SolIn I { nd with cancelled := nd.cancelled ++ [c] } a) :=
  cover_min I nd a hs c hc

theorem C02_node_none (I : Inst) (nd : Node) (hI : InstOK I) (hn2 : NodeOK2 I nd) (hnd : nd.enforced.Nodup)
    (hnf : NoFreeable I) (hg : guards I nd = some (.ok .noSol)) (a : Nat → Option Nat) : ¬ SolIn I nd a :=
  node_none I nd hI hn2 hnd hnf hg a

theorem C02_feas_in_sol (I : Inst) (R : RoomFns) (nd : Node) (hI : InstOK2 I)
    (hmm : ∀ c, c < I.C → (I.course c).numMin ≤ (I.course c).numMax) (hn2 : NodeOK2 I nd)
    (al : List (Option Nat)) (sc : Nat) (h : runNodeS I R nd = .ok (.feasible al sc)) :
    ∃ a : Nat → Option Nat, al = (List.range I.P).map a ∧ SolIn I nd a ∧ sc = G.scoreOf I a :=
  feas_in_sol I R nd hI hmm hn2 al sc h

theorem C02_feas_optimal (I : Inst) (R : RoomFns) (nd : Node) (hI : InstOK2 I)
    (hmm : ∀ c, c < I.C → (I.course c).numMin ≤ (I.course c).numMax) (hn2 : NodeOK2 I nd) (hnf : NoFreeable I)
    (al : List (Option Nat)) (sc : Nat) (h : runNodeS I R nd = .ok (.feasible al sc))
    (a' : Nat → Option Nat) (hs : SolIn I nd a') : G.scoreOf I a' ≤ sc :=
  feas_optimal I R nd hI hmm hn2 hnf al sc h a' hs

theorem C02_wrong_empty (I : Inst) (nd : Node) (hI : InstOK2 I)
    (hmm : ∀ c, c < I.C → (I.course c).numMin ≤ (I.course c).numMax) (hn2 : NodeOK2 I nd) (hnf : NoFreeable I)
    (hpen : ∑ p ∈ range I.P, maxPen I p < G.W)
    (hg : guards I nd = none) (mm : Vec Nat) (hsc : Int) (hrun : H2.run (nodeInp I nd) = some (mm, hsc))
    (p0 : Nat) (hp0 : p0 < I.P) (hact0 : skipXBase I nd p0 = false)
    (hwrong : ∀ c, assign I nd mm.get p0 = some c → ¬ ∃ ch ∈ (I.part p0).choices, ch.course = c)
    (a : Nat → Option Nat) : ¬ SolIn I nd a :=
  wrong_empty I nd hI hmm hn2 hnf hpen hg mm hsc hrun p0 hp0 hact0 hwrong a

/-- composition: a node solver satisfying `NodeSpec` makes the finished parallel search optimal —
    nothing is returned only if the root's solution set is empty; what is returned is in the set,
    has the reported score, and nothing in the set scores more. Every `T ≥ 1`, every schedule. -/
theorem C02_compose {ν σ : Type} [Eng3.Solver ν σ] {S : Type} {score : S → Nat} {Sol : ν → S → Prop}
    {sem : σ → S} {μ : ν → Nat} (h : Eng3.NodeSpec S score Sol sem μ) {root : ν} {top T : Nat}
    {c : Eng3.Cfg ν σ} (hT : 0 < T) (htop : ∀ s, Sol root s → score s ≤ top)
    (hr : Eng3.Reach root top T c) (hd : Eng3.AllDone c) :
    (c.best = none → ∀ s, ¬ Sol root s) ∧
    (∀ sol, c.best = some sol → Sol root (sem sol) ∧ score (sem sol) = c.bestScore ∧
      ∀ s, Sol root s → score s ≤ c.bestScore) :=
  Eng3.bab_optimal h hT htop hr hd

theorem noFreeableb_sound (I : Inst) (h : noFreeableb I = true) : NoFreeable I := by
  intro c p hc hin hch
  simp only [noFreeableb, List.all_eq_true, Bool.or_eq_true] at h
  rcases h _ (course_mem I hc) with hf | hall
  · exact hf
  · exfalso
    have := hall p (List.contains_iff_mem.1 hin)
    simp only [Inst.hasChoices, Bool.not_eq_true'] at hch
    rw [hch] at this
    contradiction

/-- C02 on the class outside F1, assembled end to end: no room list, valid instance
    (`validb`), no participant with own choices instructs a non-fixed course (`noFreeableb`).
    For every thread count `T ≥ 1`, every `top ≥ P · 50000`, every schedule: when all workers have
    stopped, (i) nothing is reported only if NO assignment satisfies the hard constraints, and
    (ii) what is reported satisfies them, its reported score is its documented score, and no
    assignment satisfying the hard constraints (any subset of non-fixed courses cancelled) scores
    more. -/
theorem C02_partial (I : Inst) (R : RoomFns) (hrooms : I.rooms = none) (hv : validb I = true)
    (hnf : noFreeableb I = true) (top T : Nat) (hT : 0 < T) (htop : I.P * G.W ≤ top) :
    letI := solverOf I R
    ∀ c : Eng3.Cfg Node (List (Option Nat)), Eng3.Reach rootNode top T c → Eng3.AllDone c →
      (c.best = none → ∀ a, G.hardOKb I a = false) ∧
      (∀ al, c.best = some al → ∃ a : Nat → Option Nat, al = (List.range I.P).map a ∧ G.hardOKb I a = true ∧
        c.bestScore = G.scoreOfL I a ∧ ∀ a', G.hardOKb I a' = true → G.scoreOfL I a' ≤ c.bestScore) := by
  intro c hr hd
  obtain ⟨hI, hmm, hpen⟩ := validb_sound I hv
  -- any `top ≥ P · W` bounds every score
  obtain ⟨h1, h2⟩ := N2.C02_partial I R hrooms hI hmm (noFreeableb_sound I hnf) hpen top T hT
    (fun a _ => Nat.le_trans (scoreOf_le I a) htop) c hr hd
  refine ⟨fun hn a => Bool.eq_false_iff.2 (mt (G.hardOKb_iff I a).1 (h1 hn a)), fun al hal => ?_⟩
  obtain ⟨a, ha, hh, hs, hopt⟩ := h2 al hal
  simp only [G.scoreOfL_eq]
  exact ⟨a, ha, (G.hardOKb_iff I a).2 hh, hs, fun a' ha' => hopt a' ((G.hardOKb_iff I a').1 ha')⟩

/-- non-vacuity: an instance in the class (the instructor of the non-fixed course 0 has no choices) -/
example : validb { cs := [⟨1, 2, false, [0]⟩, ⟨0, 3, true, []⟩], ps := [⟨[]⟩, ⟨[⟨0, 0⟩, ⟨1, 5⟩]⟩, ⟨[⟨1, 0⟩]⟩], rooms := none } = true ∧
    noFreeableb { cs := [⟨1, 2, false, [0]⟩, ⟨0, 3, true, []⟩], ps := [⟨[]⟩, ⟨[⟨0, 0⟩, ⟨1, 5⟩]⟩, ⟨[⟨1, 0⟩]⟩], rooms := none } = true := by
  decide +kernel

/-- the witness of the known finding F1 is a valid instance OUTSIDE the class (so `C02_partial`
    does not apply to it), and an assignment satisfying the hard constraints exists for it
    (`[X, X]`, course Y cancelled) — the model's and the code's answer "no solution" on it is
    replayed by the check on every run (corpus/C02/F1_freeable_instructor.json) -/
example : validb { cs := [⟨2, 2, false, []⟩, ⟨0, 5, false, [1]⟩], ps := [⟨[⟨0, 0⟩]⟩, ⟨[⟨0, 0⟩]⟩], rooms := none } = true ∧
    noFreeableb { cs := [⟨2, 2, false, []⟩, ⟨0, 5, false, [1]⟩], ps := [⟨[⟨0, 0⟩]⟩, ⟨[⟨0, 0⟩]⟩], rooms := none } = false ∧
    G.hardOKb { cs := [⟨2, 2, false, []⟩, ⟨0, 5, false, [1]⟩], ps := [⟨[⟨0, 0⟩]⟩, ⟨[⟨0, 0⟩]⟩], rooms := none }
      (fun _ => some 0) = true := by
  decide +kernel

end Props
