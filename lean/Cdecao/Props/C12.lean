import Cdecao.Model.Cdedb
import Cdecao.Reader.Spec
import Cdecao.Proofs.ReaderResult
import Cdecao.Proofs.ReaderValid
/-! # C12 — the problem built from a CdE export is exactly what the export says

`CD.read` models io::cdedb::read from the JSON value on. `RD.read` is the registration loop on a
typed view of the registrations (the part of `CD.readRegs` that keeps the running index). -/
namespace Props
open JS CD

/-- the registration loop: participants are exactly the kept registrations in document order,
    `index = position`, and `(c, k)` is a stored instructor entry iff the `k`-th participant is the
    registration whose `course_instructor` names course `c` — ignored and dropped registrations
    change neither the counter nor the lists -/
theorem C12_loop (ia : Bool) (regs : List RD.Reg) : RD.Inv ia regs (RD.read ia regs) :=
  RD.read_spec ia regs

/-- files of the wrong kind are refused -/
theorem C12_refuse_kind (data : J) (o : Opts) (h : (data.get "kind").bind J.asStr ≠ some "partial") :
    ∃ e, CD.read data o = .error e := by
  refine read_error_of_checkVersion o ?_
  unfold checkVersion
  cases hk : (data.get "kind").bind J.asStr with
  | none => exact ⟨_, rfl⟩
  | some kind =>
    have : kind ≠ "partial" := by intro e; rw [hk, e] at h; exact h rfl
    simp [this]

/-- a schema version below 7.0 or above 19.x is refused -/
theorem C12_refuse_version (data : J) (o : Opts) (a b : Nat)
    (hk : (data.get "kind").bind J.asStr = some "partial")
    (hv : data.get "EVENT_SCHEMA_VERSION" = some (.arr [.num (.pos a), .num (.pos b)]))
    (ha : a ≤ J.U64_MAX) (hb : b ≤ J.U64_MAX)
    (hr : a < Const.MIN_VERSION_MAJOR ∨ a > Const.MAX_VERSION_MAJOR) :
    ∃ e, CD.read data o = .error e := by
  refine read_error_of_checkVersion o ⟨"not within the supported version range", ?_⟩
  unfold checkVersion
  simp only [hk, hv, J.asArray, J.asU64, ha, hb, if_true, List.getD_cons_zero, List.getD_cons_succ]
  rcases hr with h | h <;> simp [h]

/-- the constants the reader works with: default size limits 0 and 25 (where they apply is
    `C12_course_entry`), registration status 2 = participant -/
theorem C12_defaults : Const.DEFAULT_MIN_SIZE = 0 ∧ Const.DEFAULT_MAX_SIZE = 25 ∧ Const.STATUS_PARTICIPANT = 2 := by
  decide

/-! `CD.eventParts data` is the `event.parts` object, `CD.partTracks pv` the `tracks` object of one
event part and `CD.trackCount parts` the total number of course tracks over all parts. -/

/-- no track selected and the event has no course track at all: refused -/
theorem C12_refuse_no_track (data : J) (o : Opts) (ht : o.track = none)
    (h : ∀ parts, eventParts data = some parts → trackCount parts = 0) :
    ∃ e, CD.read data o = .error e :=
  read_refuse_of_findTrack data o (fun parts hp => by
    rw [ht]; exact findTrack_none_no_track parts (h parts hp))

/-- no track selected and the event has two or more course tracks (in one part or in different
    parts): refused -/
theorem C12_refuse_two_tracks (data : J) (o : Opts) (ht : o.track = none)
    (h : ∀ parts, eventParts data = some parts → 2 ≤ trackCount parts) :
    ∃ e, CD.read data o = .error e :=
  read_refuse_of_findTrack data o (fun parts hp => by
    rw [ht]; exact findTrack_none_two_tracks parts (h parts hp))

/-- a selected track id that no event part has: refused -/
theorem C12_refuse_unknown_track (data : J) (o : Opts) (t : Nat) (ht : o.track = some t)
    (h : ∀ parts, eventParts data = some parts →
      ∀ kv ∈ parts, ∀ tr, partTracks kv.2 = some tr → ∀ tk ∈ tr, parseNat tk.1 ≠ some t) :
    ∃ e, CD.read data o = .error e :=
  read_refuse_of_findTrack data o (fun parts hp => by
    rw [ht]; exact findTrack_some_absent parts t (h parts hp))

/-- the three refusals on `findTrack` itself -/
theorem C12_findTrack_refusals (parts : List (String × J)) :
    (trackCount parts = 0 → ∃ e, findTrack parts none = .error e) ∧
    (2 ≤ trackCount parts → ∃ e, findTrack parts none = .error e) ∧
    (∀ t, (∀ kv ∈ parts, ∀ tr, partTracks kv.2 = some tr → ∀ tk ∈ tr, parseNat tk.1 ≠ some t) →
      ∃ e, findTrack parts (some t) = .error e) :=
  ⟨findTrack_none_no_track parts, findTrack_none_two_tracks parts,
   fun t h => findTrack_some_absent parts t h⟩

section Examples
private def exParts2 : List (String × J) :=
  [("1", .obj [("tracks", .obj [("3", .obj [])])]), ("2", .obj [("tracks", .obj [("4", .obj [])])])]
example : 2 ≤ trackCount exParts2 := by decide +kernel
example : ∀ kv ∈ exParts2, ∀ tr, partTracks kv.2 = some tr → ∀ tk ∈ tr, parseNat tk.1 ≠ some 5 := by
  decide +kernel
example : trackCount [("1", .obj [("tracks", .obj [])])] = 0 := by decide +kernel
end Examples

/-- When a registration's course data parse, the track's `choices` array is a list
    of u64 ids all known to `courseIndex`, and the stored choices are exactly the entries whose id
    is a kept course, in order, each with penalty = its position in the ORIGINAL array
    (`choiceEntry co (id, i) = some (c, i)` iff `courseIndex co id = some (some c)`). -/
theorem C12_choices (reg : J) (trackId : Nat) (co : CoursesOut) (pc : PCData)
    (h : participantCourseData reg trackId co = .ok pc) :
    ∃ ids : List Nat, choicesArr reg trackId = some (ids.map (fun id => J.num (.pos id))) ∧
      (∀ id ∈ ids, id ≤ J.U64_MAX ∧ courseIndex co id ≠ none) ∧
      pc.choices = ids.zipIdx.filterMap (choiceEntry co) :=
  pcd_choices h

/-- `(c, i)` is a stored choice iff position `i` of the original array holds the id
    of kept course `c`; penalties are strictly increasing along the list. -/
theorem C12_choices_mem (reg : J) (trackId : Nat) (co : CoursesOut) (pc : PCData)
    (h : participantCourseData reg trackId co = .ok pc) :
    ∃ ids : List Nat, choicesArr reg trackId = some (ids.map (fun id => J.num (.pos id))) ∧
      (∀ c i, (c, i) ∈ pc.choices ↔ ∃ id, ids[i]? = some id ∧ courseIndex co id = some (some c)) ∧
      pc.choices.Pairwise (fun a b => a.2 < b.2) :=
  pcd_choices_mem h

/-- All course entries parse; `co.courses` are the kept entries (`courseEntry`) stably
    sorted by the padded number; `co.skipped` are the ids of the other entries (`courseSkipped`) in
    document order; `co.numIgnored` counts the ignored cancelled ones. -/
theorem C12_courses (cdata : List (String × J)) (trackId : Nat) (o : Opts) (co : CoursesOut)
    (h : readCourses cdata trackId o = .ok co) :
    (∀ kv ∈ cdata, CourseParses trackId o kv) ∧
    co.courses = ((cdata.filterMap (courseEntry trackId o)).mergeSort keyLe).map (·.2) ∧
    co.skipped = cdata.filterMap (courseSkipped trackId o) ∧
    co.numIgnored = cdata.countP (courseIgnored trackId o) :=
  readCourses_spec h

/-- The sorted entry list behind `co.courses` is a permutation of the kept entries, ordered by the
    padded key, and stable with respect to document order. -/
theorem C12_courses_sorted (cdata : List (String × J)) (trackId : Nat) (o : Opts) (co : CoursesOut)
    (h : readCourses cdata trackId o = .ok co) :
    ∃ S : List (String × Course), co.courses = S.map (·.2) ∧
      S.Perm (cdata.filterMap (courseEntry trackId o)) ∧
      S.Pairwise (fun a b => a.1 ≤ b.1) ∧
      (∀ a b, a.1 ≤ b.1 → [a, b].Sublist (cdata.filterMap (courseEntry trackId o)) → [a, b].Sublist S) :=
  readCourses_sorted h

/-- A kept entry is a course whose segment of the track is `true` — or
    `false` when cancelled courses are not ignored; it carries the export's id, `nr. shortname`,
    the export's size limits with defaults `DEFAULT_MIN_SIZE`/`DEFAULT_MAX_SIZE`, and is sorted under
    `sortKey nr`. -/
theorem C12_course_entry (trackId : Nat) (o : Opts) (kv : String × J) (e : String × Course)
    (h : courseEntry trackId o kv = some e) :
    ∃ cid nr sn s f off, parseNat kv.1 = some cid ∧
      (kv.2.get "nr").bind J.asStr = some nr ∧ (kv.2.get "shortname").bind J.asStr = some sn ∧
      statusOfSeg (segView kv.2 trackId) = some s ∧ keptStatus o s = true ∧
      roomFields kv.2 o = .ok (f, off) ∧
      e = (sortKey nr, mkCourse cid (nr ++ ". " ++ sn)
            (((kv.2.get "min_size").bind J.asU64).getD Const.DEFAULT_MIN_SIZE)
            (((kv.2.get "max_size").bind J.asU64).getD Const.DEFAULT_MAX_SIZE) f off) ∧
      e.2.numMin ≤ e.2.numMax :=
  courseEntry_spec h

/-- A skipped id is the id of a course not offered in the track, or
    cancelled while cancelled courses are ignored. -/
theorem C12_course_skipped (trackId : Nat) (o : Opts) (kv : String × J) (id : Nat)
    (h : courseSkipped trackId o kv = some id) :
    parseNat kv.1 = some id ∧
      ∃ s, statusOfSeg (segView kv.2 trackId) = some s ∧ keptStatus o s = false :=
  courseSkipped_spec h

/-- the ids `courseIndex` knows are exactly the keys of the `courses` object -/
theorem C12_known_ids (cdata : List (String × J)) (trackId : Nat) (o : Opts) (co : CoursesOut)
    (h : readCourses cdata trackId o = .ok co) (id : Nat) :
    courseIndex co id ≠ none ↔ id ∈ cdata.filterMap (fun kv => parseNat kv.1) :=
  courseIndex_known h id

/-- Repeated ids: the last kept course wins. The reader collects its `id → index` map from the
    kept courses in sorted order, so if two kept courses carry the same database id (two keys of the
    `courses` object that denote the same number, such as "01" and "1") the later one overwrites the
    earlier: an id resolved to index `i` is the id of course `i`, and of no later course. -/
theorem C12_courseIndex_last (co : CoursesOut) (id i : Nat)
    (h : courseIndex co id = some (some i)) :
    ∃ hi : i < co.courses.length, (co.courses[i]).dbid = id ∧
      ∀ j (hj : j < co.courses.length), i < j → (co.courses[j]).dbid ≠ id := by
  obtain ⟨_, hi, hd, hl⟩ := (courseIndex_eq_some_some_iff co id i).1 h
  exact ⟨hi, hd, hl⟩

/-- two kept courses with the same database id 1: the id resolves to the second (index 1) -/
example :
    courseIndex
      { courses :=
          [{ dbid := 1, name := "a", numMin := 0, numMax := 5, instructors := [],
             factor := .dflt, offset := .dflt, fixed := false, hidden := [] },
           { dbid := 1, name := "b", numMin := 0, numMax := 5, instructors := [],
             factor := .dflt, offset := .dflt, fixed := false, hidden := [] }],
        skipped := [], numIgnored := 0 } 1 = some (some 1) := by
  decide +kernel

/-- A successful `readRegs` is simulated by the typed loop `RD.read`
    on the typed views `toReg` of the registration entries (running index, (dbid, choices) of the
    participants, per-course instructor lists, untouched course members), so `C12_loop` transfers. -/
theorem C12_regs_refine (rdata : List (String × J)) (partId trackId : Nat) (td : List (String × J))
    (co : CoursesOut) (o : Opts) (s : RState)
    (h : readRegs rdata partId trackId td co o = .ok s) :
    Sim co.courses s (RD.read o.ignoreAssigned (rdata.map (toReg partId trackId co))) :=
  readRegs_refines h

/-- With `K` the kept registrations in document order: the running index ends
    at `K.length`; participants are `K` (id, choices); the loop leaves id / name / size limits /
    room data of the courses alone; the instructor indices pushed into course `ci` are exactly
    the positions in `K` of the registrations whose `course_instructor` resolves to `ci`. -/
theorem C12_regs (rdata : List (String × J)) (partId trackId : Nat) (td : List (String × J))
    (co : CoursesOut) (o : Opts) (s : RState)
    (h : readRegs rdata partId trackId td co o = .ok s) :
    let K := RD.kept o.ignoreAssigned (rdata.map (toReg partId trackId co))
    s.i = K.length ∧
    s.parts.map (fun p => (p.dbid, p.choices)) = K.map (fun r => (r.id, r.choices)) ∧
    s.courses.map courseCore = co.courses.map courseCore ∧
    ∀ (ci : Nat) (c : Course), s.courses[ci]? = some c →
      ∃ (c0 : Course) (pushed : List Nat), co.courses[ci]? = some c0 ∧
        c.instructors = c0.instructors ++ pushed ∧
        ∀ k, k ∈ pushed ↔ ∃ r : RD.Reg, K[k]? = some r ∧ r.instructed = some ci :=
  readRegs_spec h

/-- The participants are exactly the kept registration entries, in document order, with the
    registration id, the name and the choices the per-registration parsers produce. -/
theorem C12_participants (rdata : List (String × J)) (partId trackId : Nat) (td : List (String × J))
    (co : CoursesOut) (o : Opts) (s : RState)
    (h : readRegs rdata partId trackId td co o = .ok s) :
    s.parts = (rdata.filter (fun kv => RD.keep o.ignoreAssigned (toReg partId trackId co kv))).map
      (partOf partId trackId co) :=
  readRegs_parts h

/-- "kept" on the export: status participant in the track's part, course data parse, not ignored
    as already assigned, and a valid choice or instructing a kept course -/
theorem C12_kept_iff (ia : Bool) (partId trackId : Nat) (co : CoursesOut) (kv : String × J) :
    RD.keep ia (toReg partId trackId co kv) = true ↔
      ∃ name pc, participantBase kv.2 partId = .ok (true, name) ∧
        participantCourseData kv.2 trackId co = .ok pc ∧
        ¬ (ia = true ∧ pc.assigned.isSome = true) ∧
        (pc.choices ≠ [] ∨ pc.instructed.isSome = true) :=
  keep_toReg_iff

/-- With `regs` the typed views: the loop adds to `invInstr` / `invAtt`
    of course `ci` the number of ignored (already assigned, `ignoreAssigned`) registrations assigned
    to `ci` that do / do not instruct it (`invisibleIn`), and `numIgnored` counts them — the
    quantities C11's arithmetic is about. -/
theorem C12_ignored (rdata : List (String × J)) (partId trackId : Nat) (td : List (String × J))
    (co : CoursesOut) (o : Opts) (s : RState)
    (h : readRegs rdata partId trackId td co o = .ok s) :
    let regs := rdata.map (toReg partId trackId co)
    (∀ ci, (s.courses[ci]?).map invOf = (co.courses[ci]?).map (fun c =>
        ((invOf c).1 + regs.countP (invisibleIn o.ignoreAssigned ci true),
         (invOf c).2 + regs.countP (invisibleIn o.ignoreAssigned ci false)))) ∧
    s.numIgnored = regs.countP (isIgnored o.ignoreAssigned) :=
  readRegs_invisible h

/-- When `read` succeeds on an export:
    * `findTrack` selected a part and track; the `courses` and `registrations` objects were read;
    * the participants are exactly the kept registration entries in document order (`partOf`:
      registration id, name, choices with penalties = original positions, see `C12_choices`);
    * the courses are `co.courses` of `readCourses` (see `C12_courses`, `C12_courses_sorted`: the
      kept courses stably sorted by padded number) — same ids, names, room data, in the same order
      (what becomes of the size limits is C11's subject: `C11_max`, `C11_min`);
    * the instructors of course `ci` are exactly the positions among the participants of the kept
      registrations whose `course_instructor` resolves to `ci`. -/
theorem C12_read (data : J) (o : Opts) (parts : List Part) (courses : List Course) (amb : Ambience)
    (h : CD.read data o = .ok (parts, courses, amb)) :
    ∃ evparts partId trackId td cdata rdata co,
      eventParts data = some evparts ∧ findTrack evparts o.track = .ok (partId, trackId, td) ∧
      coursesOf data = some cdata ∧ readCourses cdata trackId o = .ok co ∧
      regsOf data = some rdata ∧ amb.trackId = trackId ∧
      parts = (rdata.filter (fun kv => RD.keep o.ignoreAssigned (toReg partId trackId co kv))).map
        (partOf partId trackId co) ∧
      courses.map (fun c => (c.dbid, c.name, c.factor, c.offset)) =
        co.courses.map (fun c => (c.dbid, c.name, c.factor, c.offset)) ∧
      ∀ (ci : Nat) (c : Course), courses[ci]? = some c → ∀ k, k ∈ c.instructors ↔
        ∃ r : RD.Reg, (RD.kept o.ignoreAssigned (rdata.map (toReg partId trackId co)))[k]? = some r ∧
          r.instructed = some ci :=
  CD.read_spec data o parts courses amb h

/-- whenever `read` succeeds, its result is well formed against the `registrations` object of the
    export and the selected track:
    (i) every choice names a course `< courses.length`, every instructor entry a participant
        `< parts.length`;
    (ii) `numMin ≤ numMax` for every course (also after the invisible attendees were subtracted);
    (iii) over all courses together no participant index occurs twice in the instructor lists;
    (iv) every participant stems from a registration whose key is its `dbid`, and each penalty is
        `<` the length of that registration's `choices` array -/
theorem C12_read_wellformed (data : J) (o : Opts) (parts : List Part) (courses : List Course)
    (amb : Ambience) (h : CD.read data o = .ok (parts, courses, amb)) :
    ∃ rdata, (data.get "registrations").bind J.asObject = some rdata ∧
      (∀ p ∈ parts, ∀ ch ∈ p.choices, ch.1 < courses.length) ∧
      (∀ c ∈ courses, ∀ i ∈ c.instructors, i < parts.length) ∧
      (∀ c ∈ courses, c.numMin ≤ c.numMax) ∧
      (courses.flatMap (fun c => c.instructors)).Nodup ∧
      (∀ p ∈ parts, ∃ k v, (k, v) ∈ rdata ∧ parseNat k = some p.dbid ∧
        ∃ chs, CD.regChoices v amb.trackId = some chs ∧ ∀ ch ∈ p.choices, ch.2 < chs.length) := by
  obtain ⟨rdata, hrd, wf⟩ := CD.read_wellformed h
  exact ⟨rdata, hrd, wf.choice_lt, wf.instr_lt, wf.min_le_max, wf.nodup, wf.pen⟩

/-- in the executable vocabulary of `Spec/Valid.lean` on the converted instance: the
    first three conjuncts of `N2.validb` hold for every room list -/
theorem C12_read_wellformed_checks (data : J) (o : Opts) (parts : List Part) (courses : List Course)
    (amb : Ambience) (rooms : Option (List Nat)) (h : CD.read data o = .ok (parts, courses, amb)) :
    (CD.toInstR parts courses rooms).precomputeOk = true ∧
      (CD.toInstR parts courses rooms).cs.all (fun c => decide (c.numMin ≤ c.numMax)) = true ∧
      N2.nodupb (CD.toInstR parts courses rooms).allInstructors = true := by
  obtain ⟨rdata, -, wf⟩ := CD.read_wellformed h
  exact ⟨wf.precomputeOk rooms, wf.minMaxb rooms, wf.nodupb rooms⟩

/-- the hypotheses of the node-level theorems hold for the instance built from an export, provided
    no penalty exceeds the weight offset 50000 -/
theorem C12_read_wellformed_instOK2 (data : J) (o : Opts) (parts : List Part) (courses : List Course)
    (amb : Ambience) (rooms : Option (List Nat)) (h : CD.read data o = .ok (parts, courses, amb))
    (hpen : ∀ p ∈ parts, ∀ ch ∈ p.choices, ch.2 ≤ N2.WEIGHT) :
    N2.InstOK2 (CD.toInstR parts courses rooms) ∧
      ∀ c, c < (CD.toInstR parts courses rooms).C →
        ((CD.toInstR parts courses rooms).course c).numMin ≤ ((CD.toInstR parts courses rooms).course c).numMax := by
  obtain ⟨rdata, -, wf⟩ := CD.read_wellformed h
  exact ⟨wf.instOK2 rooms hpen, wf.minMax rooms⟩

/-- the hypotheses of the node-level theorems from a condition on the export alone: no registration
    lists more than 50001 choices in the selected track -/
theorem C12_read_wellformed_of_len (data : J) (o : Opts) (parts : List Part) (courses : List Course)
    (amb : Ambience) (rooms : Option (List Nat)) (h : CD.read data o = .ok (parts, courses, amb))
    (hlen : ∀ rdata, (data.get "registrations").bind J.asObject = some rdata →
      ∀ kv ∈ rdata, ∀ chs, CD.regChoices kv.2 amb.trackId = some chs → chs.length ≤ N2.WEIGHT + 1) :
    N2.InstOK2 (CD.toInstR parts courses rooms) ∧
      ∀ c, c < (CD.toInstR parts courses rooms).C →
        ((CD.toInstR parts courses rooms).course c).numMin ≤ ((CD.toInstR parts courses rooms).course c).numMax :=
  CD.read_instOK2_of_len h rooms hlen

#print axioms C12_read_wellformed
#print axioms C12_read_wellformed_checks
#print axioms C12_read_wellformed_instOK2
#print axioms C12_read_wellformed_of_len
end Props

#print axioms Props.C12_refuse_no_track
#print axioms Props.C12_refuse_two_tracks
#print axioms Props.C12_refuse_unknown_track
#print axioms Props.C12_choices
#print axioms Props.C12_choices_mem
#print axioms Props.C12_courses
#print axioms Props.C12_courses_sorted
#print axioms Props.C12_course_entry
#print axioms Props.C12_regs
#print axioms Props.C12_participants
#print axioms Props.C12_ignored
#print axioms Props.C12_read
