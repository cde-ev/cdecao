import Cdecao.Proofs.CaobabFinite
import Cdecao.Proofs.SpecExec
/-! # C02, known finding F1: the full statement is false for the code

The witness: X(min 2, max 2), Y(min 0, max 5, instructor p1); p0 and p1 both choose X; no room
list. Cancelling Y lets both attend X — an assignment satisfying all hard constraints exists — but
the model of the unchanged algorithm (and, as the check replays on every run, the real code)
answers "no solution": the root relaxation is infeasible (X misses its minimum), the enforce-child
fails the "too many enforced places" test (only p0 is active, p1 is skipped as instructor of the
running course Y) and the cancel-child leaves p0 without a course. `F1` is the instance `N2.exI` of
Proofs/CaobabFinite.lean, where the three node results are evaluated by the kernel, Hungarian routine
included. -/
namespace Props
open N2

def F1 : Inst := { cs := [⟨2, 2, false, []⟩, ⟨0, 5, false, [1]⟩], ps := [⟨[⟨0, 0⟩]⟩, ⟨[⟨0, 0⟩]⟩], rooms := none }

/-- the three nodes of the search tree of the witness, as the check's obligations name them -/
theorem F1_root (R : RoomFns) :
    runNodeS F1 R ⟨[], [], []⟩ = .ok (.infeasible [⟨[], [0], []⟩, ⟨[0], [], []⟩] 100000) := exI_root R
theorem F1_enforce (R : RoomFns) : runNodeS F1 R ⟨[], [0], []⟩ = .ok .noSol := exI_enforce R
theorem F1_cancel (R : RoomFns) : runNodeS F1 R ⟨[0], [], []⟩ = .ok .noSol := exI_cancel R

theorem F1_no_feasible (R : RoomFns) :
    letI := solverOf F1 R
    ∀ f : Node, Eng3.Desc f rootNode → ∀ sol sc, Eng3.Solver.res f ≠ Eng3.Res.feasible sol sc := by
  let S := solverOf F1 R
  intro f hd sol sc
  rcases Eng3.desc_cases hd with rfl | ⟨k, hk, hdk⟩
  · rw [(solverOf_infeasible (I := F1) (exI_root R)).1]; exact nofun
  · rw [pushed_of_infeasible (I := F1) (exI_root R)] at hk
    have leaf : ∀ {k : Node}, runNodeS F1 R k = .ok .noSol → Eng3.Desc f k →
        Eng3.Solver.res f ≠ Eng3.Res.feasible sol sc := fun hk hdk => by
      rcases Eng3.desc_cases hdk with rfl | ⟨k', hk', _⟩
      · rw [solverOf_res_eq_noSol_iff.2 hk]; exact nofun
      · rw [pushed_of_noSol hk] at hk'; exact absurd hk' List.not_mem_nil
    simp only [List.mem_cons, List.not_mem_nil, or_false] at hk
    rcases hk with rfl | rfl
    · exact leaf (F1_enforce R) hdk
    · exact leaf (F1_cancel R) hdk

/-- C02_full is false: on the valid instance `F1` (no rooms) the parallel search — every
    thread count, every schedule, every reachable configuration, in particular every finished
    one — never holds a solution, although the assignment `[X, X]` satisfies all hard constraints. -/
theorem C02_full_counterexample (R : RoomFns) (top T : Nat) :
    letI := solverOf F1 R
    validb F1 = true ∧ F1.rooms = none ∧
    (∀ c : Eng3.Cfg Node (List (Option Nat)), Eng3.Reach rootNode top T c → c.best = none) ∧
    G.HardOK F1 (fun _ => some 0) := by
  let S := solverOf F1 R
  refine ⟨by decide +kernel, rfl, ?_, (G.hardOKb_iff F1 _).1 (by decide +kernel)⟩
  intro c hr
  rcases (Eng3.reach_solinv hr).inc with h | ⟨f, sol, hd, hres, _⟩
  · exact h
  · exact absurd hres (F1_no_feasible R f hd sol _)

end Props
