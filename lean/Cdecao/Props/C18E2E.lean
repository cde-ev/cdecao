import Cdecao.Props.C06
import Cdecao.Props.C18
/-! C18 end to end: the possible-rooms listing of every REPORTED solution is sound. `C06_exec` (the
    incumbent passes the room check `RSpec.roomOKb`) and `C18_specSound` (a listing computed from
    room-feasible sizes passes the executable specification) compose through `roomOKb_fits`: the two
    rank-wise comparisons are the same, zeros sort last. -/
namespace Props
open N2

/-- the solver's room check implies the premise of the listing theorems -/
theorem roomOKb_fits (I : Inst) (R : RoomFns) (a : Nat → Option Nat) (rooms : List Nat)
    (h : RSpec.roomOKb I R a rooms = true) : RM.fits (RSpec.sizes I R a) rooms = true := by
  rw [RMP.fits_iff (RMP.sortDesc_GE (RSpec.sizes I R a)) (RMP.sortDesc_perm _) (RMP.sortDesc_GE rooms) (RMP.sortDesc_perm _)]
  simp only [RSpec.roomOKb, List.all_eq_true, List.mem_range, decide_eq_true_eq] at h
  exact RMP.forall_getD_le_iff.mp h

/-- C18 end to end, executable specification: whatever the search reports under a room list —
    any thread count, any schedule, any float behaviour — the listing computed from its effective
    sizes (for ANY sorting order of equally sized courses) passes `specSound` and `specNonempty` -/
theorem C18_end_to_end (I : Inst) (R : RoomFns) (rooms padded : List Nat) (hr : I.rooms = some rooms)
    (hp : I.roomSizes = some padded) (top T : Nat) :
    letI := solverOf I R
    ∀ c : Eng3.Cfg Node (List (Option Nat)),
      Eng3.Reach rootNode top T c → ∀ al, c.best = some al →
      ∃ a : Nat → Option Nat, al = (List.range I.P).map a ∧
        ∀ order, RM.orderOk (RSpec.sizes I R a) order = true →
          RM.specSound (RSpec.sizes I R a) rooms (RM.possibleByCourse (RSpec.sizes I R a) order rooms) = true ∧
          RM.specNonempty (RSpec.sizes I R a) (RM.possibleByCourse (RSpec.sizes I R a) order rooms) = true := by
  intro c hreach al hal
  obtain ⟨a, h1, h2⟩ := C06_exec I R rooms padded hr hp top T c hreach al hal
  exact ⟨a, h1, fun order hO => C18_specSound _ order rooms hO (roomOKb_fits I R a rooms h2)⟩

/-- C18 end to end, spelled out: every room size listed for a course of a reported solution is
    at least the course's effective size, is the size of an existing room, and occurs in a complete
    allocation of distinct rooms to all courses that take place; every course that takes place
    (positive effective size) is offered at least one room -/
theorem C18_end_to_end_meaning (I : Inst) (R : RoomFns) (rooms padded : List Nat) (hr : I.rooms = some rooms)
    (hp : I.roomSizes = some padded) (top T : Nat) :
    letI := solverOf I R
    ∀ c : Eng3.Cfg Node (List (Option Nat)),
      Eng3.Reach rootNode top T c → ∀ al, c.best = some al →
      ∃ a : Nat → Option Nat, al = (List.range I.P).map a ∧
        ∀ order, RM.orderOk (RSpec.sizes I R a) order = true → ∀ crs, crs < I.C →
          (∀ v, v ∈ (RM.possibleByCourse (RSpec.sizes I R a) order rooms).getD crs [] →
            (RSpec.sizes I R a).getD crs 0 ≤ v ∧ v ∈ rooms ∧
            ∃ g : Nat → Nat, RMP.CAlloc (RSpec.sizes I R a) rooms g ∧ g crs < rooms.length ∧ rooms.getD (g crs) 0 = v ∧
              ∀ c', c' < (RSpec.sizes I R a).length → g c' = g crs → c' = crs) ∧
          (0 < (RSpec.sizes I R a).getD crs 0 → (RM.possibleByCourse (RSpec.sizes I R a) order rooms).getD crs [] ≠ []) := by
  intro c hreach al hal
  obtain ⟨a, h1, h2⟩ := C06_exec I R rooms padded hr hp top T c hreach al hal
  have hF := roomOKb_fits I R a rooms h2
  refine ⟨a, h1, fun order hO crs hc => ⟨fun v hv => ?_, fun hpos => ?_⟩⟩
  · exact C18_byCourse_sound _ order rooms hO hF crs (by rw [length_sizes]; exact hc) v hv
  · exact C18_byCourse_nonempty _ order rooms hO hF crs (by rw [length_sizes]; exact hc) hpos

end Props
