import Cdecao.Proofs.ReaderValid
import Cdecao.Proofs.NodeEng
/-! # C01 / C08 / C10 on the CdE path: reader ∘ solver

Whatever `io::cdedb::read` (model `CD.read`) accepts is a problem on which the solver theorems
apply WITHOUT any further validity hypothesis except a bound on the length of choice lists
(≤ 50001 entries, so that penalties stay below the weight offset): indices in range, every
registration instructs at most one course and is listed once (`C12_read_wellformed`). -/
namespace Props
open CD N2

/-- for every export the reader accepts, every room list and float behaviour, every thread count
    and schedule: the incumbent of the parallel search satisfies the hard constraints of the
    problem that was read, and the stored score is its documented score -/
theorem C01_C08_cde {data : JS.J} {o : Opts} {parts : List CD.Part} {courses : List CD.Course} {amb : Ambience}
    (h : CD.read data o = .ok (parts, courses, amb)) (rooms : Option (List Nat)) (R : RoomFns)
    (hlen : ∀ rdata, (data.get "registrations").bind JS.J.asObject = some rdata →
      ∀ kv ∈ rdata, ∀ chs, regChoices kv.2 amb.trackId = some chs → chs.length ≤ N2.WEIGHT + 1)
    (top T : Nat) :
    letI := solverOf (toInstR parts courses rooms) R
    ∀ c : Eng3.Cfg Node (List (Option Nat)),
      Eng3.Reach rootNode top T c → ∀ al, c.best = some al →
      ∃ a : Nat → Option Nat, al = (List.range (toInstR parts courses rooms).P).map a ∧
        G.HardOK (toInstR parts courses rooms) a ∧ c.bestScore = G.scoreOf (toInstR parts courses rooms) a :=
  C01_C08_engine (toInstR parts courses rooms) R (read_instOK2_of_len h rooms hlen).1 top T

/-- C10 on the CdE path: no node of the search tree makes the solver panic -/
theorem C10_cde {data : JS.J} {o : Opts} {parts : List CD.Part} {courses : List CD.Course} {amb : Ambience}
    (h : CD.read data o = .ok (parts, courses, amb)) (rooms : Option (List Nat)) (R : RoomFns)
    (hlen : ∀ rdata, (data.get "registrations").bind JS.J.asObject = some rdata →
      ∀ kv ∈ rdata, ∀ chs, regChoices kv.2 amb.trackId = some chs → chs.length ≤ N2.WEIGHT + 1) :
    letI := solverOf (toInstR parts courses rooms) R
    ∀ f : Node, Eng3.Desc f rootNode → Eng3.Solver.res f ≠ (Eng3.Res.panic : Eng3.Res (List (Option Nat))) :=
  tree_no_panic (toInstR parts courses rooms) R (read_instOK2_of_len h rooms hlen).1.toInstOK
    (read_instOK2_of_len h rooms hlen).2

end Props
