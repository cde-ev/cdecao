import Cdecao.Model.Cdedb
import Cdecao.Proofs.ImportConsistent
/-! # C11 — the ignore options leave ignored data untouched and reserve its places

Reader side (`CD.readRegs`, `CD.adapt`): an ignored registration is never added to the
participants (so, by C05, it is never named in the import file); its course gets the place
reserved. These lemmas are the arithmetic of `adapt_course_for_invisible_participants`; `c.invAtt`
/ `c.invInstr` are the numbers of ignored pre-assigned attendees / instructors of the course. -/
namespace Props
open CD

/-- no new attendee beyond the original maximum counting the pre-assigned ones -/
theorem C11_max (c : Course) (new : Nat) (h : new ≤ (adapt c).numMax) :
    new = 0 ∨ new + c.invAtt ≤ c.numMax :=
  eq_zero_or_add_le_of_le_sub h

/-- the original minimum is met counting both groups -/
theorem C11_min (c : Course) (new : Nat) (h : (adapt c).numMin ≤ new) : c.numMin ≤ new + c.invAtt :=
  Nat.sub_le_iff_le_add.1 h

theorem C11_min_le_max (c : Course) (h : c.numMin ≤ c.numMax) : (adapt c).numMin ≤ (adapt c).numMax :=
  Nat.sub_le_sub_right h _

/-- a course with ignored people is fixed (hence, by C01, never cancelled and, by the writer,
    always written as taking place) -/
theorem C11_fixed (c : Course) : (adapt c).fixed = true ↔ c.invInstr + c.invAtt ≠ 0 := by
  simp only [adapt, decide_eq_true_eq]

/-- the writer marks a fixed course as taking place even when nobody new is assigned -/
theorem C11_fixed_written (courses : List Course) (a : List (Option Nat)) (c : Course) (i : Nat)
    (h : (c, i) ∈ courses.zipIdx) (hf : c.fixed = true) : (c.dbid, true) ∈ writeCourses courses a :=
  mem_writeCourses.2 ⟨i, c, List.mem_zipIdx_iff_getElem?.1 h, rfl, by simp [hf]⟩

/-! Vocabulary as in Props/C05.lean (defined in Cdecao/Proofs/ImportConsistent.lean).
`CD.Link.invCount_eq` ties `ignoredCount`, a count over the export's registrations, to the counters
`invInstr` / `invAtt` the reader keeps (`readRegs_invisible`). -/

open N2.G in
/-- C11, assembled. For the problem read from an export and any assignment satisfying the hard
    constraints:
    * (a) an ignored registration is never named: every registration entry of the import file is a
      participant of the selected part whose `course_id` in the selected track, with
      `--ignore-assigned`, is absent/null or names a course that is not kept — in particular it is
      not the id of any course of the import file;
    * (f) a course with ignored pre-assigned people is fixed in the problem, hence takes place in the
      sense of `HardOK` and is written as taking place;
    * (d) the places of the ignored attendees are reserved: a course written as taking place meets
      the export's `min_size` counting new and ignored attendees, and either gets no new attendee or
      respects the export's `max_size` counting both;
    * (f) with `--ignore-cancelled`, every course entry of the import file is a course of the export
      whose segment in the selected track is `true` (`CourseNamed`), and a course of the export
      that is cancelled in the selected track appears neither in the courses object nor in the
      registrations object of the import file. -/
theorem C11_consistent (data : JS.J) (o : Opts) (parts : List Part) (courses : List Course)
    (amb : Ambience) (al : List (Option Nat))
    (hread : CD.read data o = .ok (parts, courses, amb))
    (hlen : al.length = parts.length)
    (hok : HardOK (toInst parts courses) (fun p => al.getD p none))
    (hkeys : NodupKeys data) :
    ∃ partId trackId cdata rdata, Selected data o amb partId trackId cdata rdata ∧
      -- (a)
      (∀ rid cid, (rid, cid) ∈ writeRegs parts courses al →
        ∃ rkv ∈ rdata, RegNamed o partId trackId cdata rkv rid ∧
          (o.ignoreAssigned = true → ∀ cid' b, (cid', b) ∈ writeCourses courses al →
            regCourseId rkv.2 trackId ≠ some cid')) ∧
      -- (f) fixed, (d) sizes
      (∀ c cid b, (writeCourses courses al)[c]? = some (cid, b) →
        ∃ ckv ∈ cdata, CourseNamed o trackId ckv cid ∧
          (ignoredCount o partId trackId rdata cid true +
              ignoredCount o partId trackId rdata cid false ≠ 0 →
            ((toInst parts courses).course c).fixed = true ∧
            takesPlace (toInst parts courses) (fun p => al.getD p none) c ∧ b = true) ∧
          (b = true → courseMinSize ckv.2 ≤
            attendees (toInst parts courses) (fun p => al.getD p none) c +
              ignoredCount o partId trackId rdata cid false) ∧
          (attendees (toInst parts courses) (fun p => al.getD p none) c = 0 ∨
            attendees (toInst parts courses) (fun p => al.getD p none) c +
              ignoredCount o partId trackId rdata cid false ≤ courseMaxSize ckv.2)) ∧
      -- (f) cancelled courses
      (o.ignoreCancelled = true → ∀ ckv ∈ cdata, courseSegment ckv.2 trackId = some false →
        ∀ cid, JS.parseNat ckv.1 = some cid →
          (∀ b, (cid, b) ∉ writeCourses courses al) ∧
          (∀ rid, (rid, cid) ∉ writeRegs parts courses al)) := by
  obtain ⟨partId, trackId, cdata, rdata, co, L⟩ := read_link hread
  have hn : (courseIds cdata).Nodup := hkeys cdata L.hcdata
  refine ⟨partId, trackId, cdata, rdata, L.selected, ?_, ?_, ?_⟩
  · intro rid cid h
    obtain ⟨rkv, hm, _, _, hreg, _⟩ := L.regs_entry hok h
    -- its `course_id`, if any, is the key of an entry that is not kept; a written id is not
    refine ⟨rkv, hm, hreg, fun hia cid' b hw heq => ?_⟩
    obtain ⟨ckv, hc, hk, hnk⟩ := hreg.2.2 hia cid' heq
    exact L.written_kept hn hw hc hk hnk
  · intro c cid b h
    obtain ⟨ckv, hm, hnamed, h1, h2, h3, h4⟩ := L.courses_entry hlen hok h
    obtain ⟨cc, hcc, rfl, _⟩ := writeCourses_getElem?_eq_some.1 h
    rw [L.invCount_eq hn hcc false] at h2 h3 h4
    rw [L.invCount_eq hn hcc true] at h4
    exact ⟨ckv, hm, hnamed, fun hne => ⟨(h4 hne).1, h1.1 (h4 hne).2, (h4 hne).2⟩, h2, h3⟩
  · intro hic ckv hm hseg cid hk
    -- a cancelled-and-ignored entry is not kept, so its key is not written; by (b) of C05 the
    -- course of a registration entry is written
    have h1 : ∀ b, (cid, b) ∉ writeCourses courses al :=
      fun b hb => L.written_kept hn hb hm hk (.inr ⟨hseg, hic⟩)
    exact ⟨h1, fun rid hr => h1 true (mem_writeCourses_of_mem_writeRegs hok hr)⟩

/-- the hypotheses hold on `CD.Ex`: registration 101 is pre-assigned to course 7 and ignored, course 8
    is cancelled and ignored -/
example := C11_consistent Ex.doc Ex.opts Ex.parts Ex.courses Ex.amb Ex.al Ex.read_eq rfl Ex.hardOK
  Ex.nodupKeys

/-- on that instance the reserved place is visible: one ignored attendee of course 7 -/
example : ignoredCount Ex.opts 1 3 Ex.rdata 7 false = 1 ∧ ignoredCount Ex.opts 1 3 Ex.rdata 7 true = 0 := by
  decide +kernel

end Props

#print axioms Props.C11_consistent
