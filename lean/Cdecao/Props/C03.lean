import Cdecao.Props.C03F11  -- bin/config.py audits the F11 witness from this module
import Cdecao.Engine.Core
import Cdecao.Engine.BabOpt
import Cdecao.Proofs.NodeSpecAsm
import Cdecao.Proofs.SpecExec
import Cdecao.Props.C02
/-! # C03 — verdict and score do not depend on thread count or thread interleaving -/
namespace Props
open Eng3
variable {ν σ : Type} [Solver ν σ]

/-- C03 for the engine: two finished runs on the same bounded tree — any two thread counts, any
    two schedules (critical-section orders, pop choices, wake-up choices, spurious wake-ups) — agree
    on whether a solution is found and on its score. -/
theorem C03 {root : ν} {top T₁ T₂ : Nat} {c₁ c₂ : Cfg ν σ} (h1 : 0 < T₁) (h2 : 0 < T₂)
    (hb : Bounded root) (htop : ∀ f sc, Desc f root → IsFeas f sc → sc ≤ top)
    (hr1 : Reach root top T₁ c₁) (hd1 : AllDone c₁) (hr2 : Reach root top T₂ c₂) (hd2 : AllDone c₂) :
    (c₁.best = none ↔ c₂.best = none) ∧ (c₁.best ≠ none → c₁.bestScore = c₂.bestScore) :=
  C03_engine h1 h2 hb htop hr1 hd1 hr2 hd2

/-- the premise `Bounded` follows from a node-level specification of the solver (`NodeSpec`) -/
theorem C03_bounded_of_spec {S : Type} {score : S → Nat} {Sol : ν → S → Prop} {sem : σ → S} {μ : ν → Nat}
    (h : NodeSpec S score Sol sem μ) (root : ν) : Bounded root :=
  bounded_of_spec h root

/-- C03 for caobab, class outside F1, WITH OR WITHOUT a room list and for every float
    behaviour `R`: two finished runs of the parallel search on the same valid instance — any two
    thread counts, any two schedules — agree on whether a solution is found and on its score. -/
theorem C03_caobab (I : N2.Inst) (R : N2.RoomFns) (hv : N2.validb I = true) (hnf : N2.noFreeableb I = true)
    (top T₁ T₂ : Nat) (h1 : 0 < T₁) (h2 : 0 < T₂) (htop : I.P * N2.G.W ≤ top) :
    letI := N2.solverOf I R
    ∀ c₁ c₂ : Cfg N2.Node (List (Option Nat)),
      Reach N2.rootNode top T₁ c₁ → AllDone c₁ → Reach N2.rootNode top T₂ c₂ → AllDone c₂ →
      (c₁.best = none ↔ c₂.best = none) ∧ (c₁.best ≠ none → c₁.bestScore = c₂.bestScore) := by
  let S := N2.solverOf I R
  intro c₁ c₂ hr1 hd1 hr2 hd2
  obtain ⟨hI, hmm, _⟩ := N2.validb_sound I hv
  have hs := N2.caobab_boundSpec I R hI hmm (noFreeableb_sound I hnf)
  -- every assignment, hence every feasible node of the tree, scores at most P · W
  exact C03_engine h1 h2 (bounded_of_bspec hs _ (N2.rootNode_ok2 I))
    (feas_le_top hs (N2.rootNode_ok2 I) fun a _ => Nat.le_trans (N2.scoreOf_le I a) htop) hr1 hd1 hr2 hd2

end Props
