import Cdecao.Proofs.MainFront
import Cdecao.Proofs.SimpleShape
import Cdecao.Model.MainConstants
import Cdecao.Proofs.ReaderValid
import Cdecao.Props.C16
/-! # main.rs as a whole (C10, C15, C16 at the level of the program)

`MainM.front` is everything `main` does before the solver is called, `MainM.run` the whole program
as a function of the parsed options, what the environment delivers, the solver's verdict and the
two output faults. The theorems below are the program-level statements of C15 (whatever is not a
well-formed instance is refused with a usage / data / no-input status, before the solver runs and
before any output file is touched), C10 (whatever is accepted ends with status 0 or 1) and C16
(status 0 with an output path means the file is complete). -/
namespace Props
open MainM CLI

/-- the stage order of main.rs, re-extracted from the source on every run, is the one the model
    was written against -/
theorem main_skeleton_tie : Const.MAIN_SKELETON = MainM.skeleton := rfl

/-- the command-line definition of main.rs (clap), re-extracted from the source on every run, is the
    one the model's `Opts` was written against: the same option names fill the same fields, the same
    ones are switches, nothing defaults, overrides or conflicts, the command parses strictly -/
theorem main_clap_tie : Const.MAIN_CLAP_SKELETON = MainM.clapSkeleton := rfl

/-- every early exit before the solver carries the usage, data or no-input status -/
theorem main_front_codes {o : Opts} {e : Env} {c : Nat} (h : front o e = .error c) :
    c = EX_USAGE ∨ c = EX_DATAERR ∨ c = EX_NOINPUT := by
  rcases front_error h with ⟨-, rfl⟩ | hp | ⟨-, rfl⟩ | hr | rfl
  · exact .inl rfl                                      -- zero worker threads
  · exact parseRooms_codes hp
  · exact .inr (.inr rfl)                               -- the input file cannot be opened
  · exact .inr (.inl (readInput_codes hr))
  · exact .inr (.inl rfl)                               -- inconsistent data or no participants

/-- C15, program level: a run refused before the solver ends with that status — 64, 65 or 66,
    never 0 and never the "no feasible solution" status 1 —, the solver was not called, no output
    file was created or touched, nothing was printed; whatever the solver would have said and
    whatever the state of the output path -/
theorem C15_main_refused {o : Opts} {e : Env} {c : Nat} (h : front o e = .error c)
    (found : Problem → Bool) (created written : Bool) :
    (run o e found created written).exit = c ∧
    (c = 64 ∨ c = 65 ∨ c = 66) ∧
    (run o e found created written).solverCalled = false ∧
    (run o e found created written).createAttempted = false ∧
    (run o e found created written).fileComplete = false ∧
    (run o e found created written).listing = false := by
  rw [run_of_error h]
  simpa [EX_USAGE, EX_DATAERR, EX_NOINPUT] using main_front_codes h

theorem C15_main_zero_threads {o : Opts} {e : Env} (h : o.threads = some 0) : front o e = .error 64 := by
  simp [front, h, EX_USAGE]

theorem front_rooms {o : Opts} {e : Env} {pb : Problem} (h : front o e = .ok pb) :
    parseRooms o e = .ok (pb.rooms, pb.kinds) := (front_ok_iff.1 h).2.1

theorem C15_main_both_rooms {o : Opts} {e : Env} {s : String} (h : o.rooms = some s) (h' : o.roomsFile = true) :
    ∃ c, front o e = .error c :=
  Except.exists_error_of_not_ok fun pb hf => by
    rcases parseRooms_ok (front_rooms hf) with ⟨hf', -⟩ | ⟨-, hr, -⟩
    · rw [h'] at hf'; cases hf'
    · rw [h] at hr; cases hr

theorem C15_main_rooms_unparsable {o : Opts} {e : Env} {s : String} (h : o.rooms = some s)
    (hp : RI.parseRoomsStr s = none) : ∃ c, front o e = .error c :=
  Except.exists_error_of_not_ok fun pb hf => by
    rcases parseRooms_ok (front_rooms hf) with ⟨-, -, ⟨hr, -⟩ | ⟨s', hr, hs, hps⟩⟩ | ⟨-, hr, -⟩
    · rw [h] at hr; cases hr
    · rw [h] at hr; cases hr
      rw [hp] at hps; rw [← hps] at hs; cases hs
    · rw [h] at hr; cases hr

theorem C15_main_rooms_file_bad {o : Opts} {e : Env} (h : o.roomsFile = true)
    (hb : e.roomsFile = .cannotOpen ∨ e.roomsFile = .notJson ∨ ∃ j, e.roomsFile = .doc j ∧ RI.kindsOf j = none) :
    ∃ c, front o e = .error c :=
  Except.exists_error_of_not_ok fun pb hf => by
    rcases parseRooms_ok (front_rooms hf) with ⟨hf', -⟩ | ⟨-, -, j, ks, hj, hk, -⟩
    · rw [h] at hf'; cases hf'
    · rcases hb with hb | hb | ⟨j', hb, hk'⟩
      · rw [hb] at hj; cases hj
      · rw [hb] at hj; cases hj
      · rw [hb] at hj; cases hj
        rw [hk'] at hk; cases hk

theorem front_no_rooms {o : Opts} {e : Env} {pb : Problem} (h : front o e = .ok pb)
    (h1 : o.rooms = none) (h2 : o.roomsFile = false) : pb.rooms = none := by
  rcases parseRooms_ok (front_rooms h) with ⟨-, -, ⟨-, hr⟩ | ⟨s, hs, -⟩⟩ | ⟨hf, -⟩
  · exact hr
  · rw [h1] at hs; cases hs
  · rw [h2] at hf; cases hf

/-- with a rooms file, the room list the solver fits courses into is exactly the expansion of the
    kinds the possible-rooms listing is computed from (`RM.kindNames` expands the same kinds again):
    solver and listing cannot disagree about which rooms exist -/
theorem front_kinds_rooms {o : Opts} {e : Env} {pb : Problem} {ks : List RM.Kind} (h : front o e = .ok pb)
    (hk : pb.kinds = some ks) :
    pb.rooms = some (ks.flatMap (fun k => List.replicate k.quantity k.capacity)) := by
  rcases parseRooms_ok (front_rooms h) with ⟨-, hn, -⟩ | ⟨-, -, j, ks', -, -, hr, hk'⟩
  · rw [hk] at hn; cases hn
  · rw [hk] at hk'; cases hk'; exact hr

theorem front_no_kinds {o : Opts} {e : Env} {pb : Problem} (h : front o e = .ok pb) (h2 : o.roomsFile = false) :
    pb.kinds = none := by
  rcases parseRooms_ok (front_rooms h) with ⟨-, hn, -⟩ | ⟨hf, -⟩
  · exact hn
  · rw [h2] at hf; cases hf

theorem C15_main_input_bad {o : Opts} {e : Env} (hb : e.input = .cannotOpen ∨ e.input = .notJson) :
    ∃ c, front o e = .error c :=
  Except.exists_error_of_not_ok fun pb hf => by
    obtain ⟨-, -, j, hj, -⟩ := front_ok_iff.1 hf
    rcases hb with hb | hb <;> rw [hb] at hj <;> cases hj

/-- simple format: the program goes on to the solver only for documents `SM.accepts` accepts
    (reader + `check_data_consistency` + at least one participant) — so everything
    `C15_accept_sound` says about accepted documents holds for what reaches the solver. The converse
    is `C15_main_simple_refused`. -/
theorem C15_main_simple {o : Opts} {e : Env} {pb : Problem} (h : front o e = .ok pb) (hc : o.cde = false) :
    ∃ j ps cs, e.input = .doc j ∧ SM.read j = .ok (ps, cs) ∧ pb.data = .simple ps cs ∧ SM.accepts j = true := by
  obtain ⟨-, -, j, hj, hr, hcons, hne, -⟩ := front_ok_iff.1 h
  obtain ⟨j', hj', ⟨-, ps, cs, hrd, hd⟩ | ⟨hc', -⟩⟩ := readInput_ok hr
  · cases hj'
    rw [hd] at hcons hne
    refine ⟨j, ps, cs, hj, hrd, hd, SM.accepts_iff.2 ⟨ps, cs, hrd, ?_⟩⟩
    rw [validate_eq, hcons, Bool.true_and]
    cases ps with
    | nil => exact absurd rfl hne
    | cons _ _ => rfl
  · rw [hc] at hc'; cases hc'

theorem C15_main_simple_refused {o : Opts} {e : Env} {j : JS.J} (hc : o.cde = false) (hj : e.input = .doc j)
    (ha : SM.accepts j = false) : ∃ c, front o e = .error c := by
  refine Except.exists_error_of_not_ok fun pb hf => ?_
  obtain ⟨j', _, _, hj', _, _, ha'⟩ := C15_main_simple hf hc
  rw [hj] at hj'; cases hj'
  rw [ha] at ha'; cases ha'

/-- CdE format: what reaches the solver is what `CD.read` returned for the parsed track id -/
theorem C15_main_cde {o : Opts} {e : Env} {pb : Problem} (h : front o e = .ok pb) (hc : o.cde = true) :
    ∃ j track ps cs amb, e.input = .doc j ∧ parseTrack o.track = .ok track ∧
      CD.read j { track := track, ignoreCancelled := o.ignoreCancelled, ignoreAssigned := o.ignoreAssigned,
                  factorField := o.factorField, offsetField := o.offsetField } = .ok (ps, cs, amb) ∧
      pb.data = .cde ps cs amb ∧ ps ≠ [] := by
  obtain ⟨-, -, j, hj, hr, -, hne, -⟩ := front_ok_iff.1 h
  obtain ⟨j', hj', ⟨hc', -⟩ | ⟨-, track, ps, cs, amb, ht, hrd, hd⟩⟩ := readInput_ok hr
  · rw [hc] at hc'; cases hc'
  · cases hj'
    rw [hd] at hne
    exact ⟨j, track, ps, cs, amb, hj, ht, hrd, hd, fun hps => hne (by rw [hps]; rfl)⟩

theorem C15_main_cde_refused {o : Opts} {e : Env} {j : JS.J} (hc : o.cde = true) (hj : e.input = .doc j)
    (hb : (∃ s, o.track = some s ∧ JS.parseNat s = none) ∨
          ∀ track, parseTrack o.track = .ok track → ∃ msg,
            CD.read j { track := track, ignoreCancelled := o.ignoreCancelled, ignoreAssigned := o.ignoreAssigned,
                        factorField := o.factorField, offsetField := o.offsetField } = .error msg) :
    ∃ c, front o e = .error c := by
  refine Except.exists_error_of_not_ok fun pb hf => ?_
  obtain ⟨j', track, ps, cs, amb, hj', ht, hrd, -, -⟩ := C15_main_cde hf hc
  rw [hj] at hj'; cases hj'
  rcases hb with ⟨s, hs, hp⟩ | hb
  · simp [parseTrack, hs, hp] at ht
  · obtain ⟨msg, hm⟩ := hb track ht
    rw [hm] at hrd; cases hrd

/-- on the CdE path `check_data_consistency` never fires: whatever `CD.read` returns is consistent
    (indices in range, min ≤ max) — the reader's own invariant -/
theorem main_cde_consistent {j : JS.J} {ro : CD.Opts} {ps : List CD.Part} {cs : List CD.Course} {amb : CD.Ambience}
    (h : CD.read j ro = .ok (ps, cs, amb)) : (Data.cde ps cs amb).consistent = true := by
  obtain ⟨rdata, -, wf⟩ := CD.read_wellformed h
  simp only [Data.consistent, Bool.and_eq_true, List.all_eq_true, decide_eq_true_eq]
  exact ⟨fun p hp ch hch => wf.choice_lt p hp ch hch,
         fun c hc => ⟨fun i hi => wf.instr_lt c hc i hi, wf.min_le_max c hc⟩⟩

/-- C10, program level: a run that reaches the solver, without output faults, ends with
    status 0 (solution; the file, if requested, complete) or 1 (no solution; no file touched) -/
theorem C10_main {o : Opts} {e : Env} {pb : Problem} (h : front o e = .ok pb) (found : Problem → Bool) :
    (found pb = true → (run o e found true true).exit = 0 ∧ (run o e found true true).fileComplete = o.output) ∧
    (found pb = false → (run o e found true true).exit = 1 ∧ (run o e found true true).createAttempted = false ∧
        (run o e found true true).listing = false) := by
  rw [run_of_ok h, outputStage_no_fault]
  cases hf : found pb <;> simp

/-- the number of workers handed to the solver is never 0 when at least one CPU is reported -/
theorem C10_main_threads {o : Opts} {e : Env} {pb : Problem} (h : front o e = .ok pb) (hcpu : 0 < e.cpus) :
    0 < pb.threads := by
  obtain ⟨hz, -, _, -, -, -, -, ht⟩ := front_ok_iff.1 h
  rw [ht]
  cases hth : o.threads with
  | none => exact hcpu
  | some n => exact Nat.pos_of_ne_zero fun h0 => hz (hth.trans (congrArg some h0))

/-- C16, program level: exit status 0 with an output path means the solver found a solution,
    the file was created and written completely -/
theorem C16_main {o : Opts} {e : Env} (found : Problem → Bool) (created written : Bool) (ho : o.output = true)
    (h : (run o e found created written).exit = 0) :
    (run o e found created written).solverCalled = true ∧ created = true ∧ written = true ∧
    (run o e found created written).fileComplete = true := by
  cases hf : front o e with
  | error c =>
    rw [run_of_error hf] at h
    rcases main_front_codes hf with rfl | rfl | rfl <;> simp [EX_USAGE, EX_DATAERR, EX_NOINPUT] at h
  | ok pb =>
    rw [run_of_ok hf] at h ⊢
    have := C16 (found pb) o.print ⟨o.output, created, written⟩ ho h
    exact ⟨rfl, this.2.1, this.2.2.1, this.2.2.2⟩

/-- every output fault gives a non-zero status although a solution exists -/
theorem C16_main_faults {o : Opts} {e : Env} {pb : Problem} (h : front o e = .ok pb) (found : Problem → Bool)
    (hf : found pb = true) (ho : o.output = true) (created written : Bool) (hb : created = false ∨ written = false) :
    (run o e found created written).exit = EX_CANTCREAT ∨ (run o e found created written).exit = EX_IOERR := by
  rw [run_of_ok h, hf]
  obtain ⟨h1, h2, -⟩ := C16_faults o.print ⟨o.output, created, written⟩ ho
  rcases Bool.eq_false_or_eq_true created with hc | hc
  · exact .inr (h2 hc (hb.resolve_left (by simp [hc])))
  · exact .inl (h1 hc)

/-! non-vacuity: concrete runs -/

private def okDoc : JS.J :=
  .obj [("participants", .arr [.obj [("name", .str "A"), ("choices", .arr [.obj [("course", .num (.pos 0)), ("penalty", .num (.pos 0))]])]]),
        ("courses", .arr [.obj [("name", .str "X"), ("num_max", .num (.pos 3)), ("num_min", .num (.pos 0)), ("instructors", .arr [])]])]

example : (run { threads := some 0, rooms := some "1,x" } ⟨.doc okDoc, .cannotOpen, 4⟩ (fun _ => true) true true).exit = 64 := by decide +kernel
example : (run { rooms := some "1,x" } ⟨.doc okDoc, .cannotOpen, 4⟩ (fun _ => true) true true).exit = 65 := by decide +kernel
example : (run { roomsFile := true } ⟨.cannotOpen, .cannotOpen, 4⟩ (fun _ => true) true true).exit = 66 := by decide +kernel

end Props
