import Cdecao.Proofs.Sel
import Cdecao.Proofs.SelComplete
/-! C20 — k-subset enumeration used for room branching is exact -/
namespace Props
open S

/-- the binomial helper is exact, for all `n`, `k` -/
theorem C20_binom (n k : Nat) : binom n k = Nat.choose n k := binom_eq n k

/-- for `1 ≤ k ≤ n` the enumerator yields exactly `choose n k` index lists; the `i`-th is strictly
    increasing (list order), below `n`, of length `k`, and has combinatorial rank `i` (distinctness
    and completeness are `C20_nodup`, `C20_complete`) -/
theorem C20_selections (n k : Nat) (hk : 1 ≤ k) (hkn : k ≤ n) :
    (selections n k).length = Nat.choose n k ∧
    ∀ i, i < Nat.choose n k → ∃ l, (selections n k)[i]? = some l ∧ Valid n 0 l ∧ l.length = k ∧ rank 0 l = i :=
  selections_spec n k hk hkn

/-- the iterator stops by itself right after the last selection -/
theorem C20_stops (n k : Nat) (l : List Nat) (hne : l ≠ []) (hv : Valid n 0 l) (hlen : l.length = k)
    (hr : rank 0 l + 1 = Nat.choose n k) : next n l = none :=
  stops_after_last n k l hne hv hlen hr

/-- for `k = 0` or `k > n` nothing is yielded -/
theorem C20_empty (n k : Nat) (h : k = 0 ∨ k > n) : selections n k = [] := selections_empty n k h

/-- the reported remainder is exact: `choose n k` before the first call, `choose n k - (i+1)` after
    the selection of rank `i` -/
theorem C20_size_hint (n k i : Nat) (l : List Nat) (hr : rank 0 l = i) :
    sizeHint n k none = Nat.choose n k ∧ sizeHint n k (some l) = Nat.choose n k - (i + 1) :=
  ⟨by rw [sizeHint, binom_eq], by rw [sizeHint, binom_eq, rankB_eq, hr, Nat.sub_sub]⟩

/-- (i) the yielded lists are pairwise distinct -/
theorem C20_nodup (n k : Nat) : (selections n k).Nodup := selections_nodup n k

/-- membership characterisation, `k ≥ 1`: exactly the strictly increasing lists of `k` indices
    below `n` -/
theorem C20_mem (n k : Nat) (hk : 1 ≤ k) (l : List Nat) :
    l ∈ selections n k ↔ l.Pairwise (· < ·) ∧ (∀ a ∈ l, a < n) ∧ l.length = k :=
  mem_selections n k hk l

/-- (ii) completeness: every strictly increasing list of `k ≥ 1` naturals below `n` is yielded
    exactly once -/
theorem C20_complete (n k : Nat) (hk : 1 ≤ k) (l : List Nat) (hinc : l.Pairwise (· < ·))
    (hlt : ∀ a ∈ l, a < n) (hlen : l.length = k) :
    l ∈ selections n k ∧ (selections n k).count l = 1 :=
  ⟨(mem_selections n k hk l).mpr ⟨hinc, hlt, hlen⟩, selections_count n k hk l hinc hlt hlen⟩

/-- the same with the vocabulary of `C20_selections` -/
theorem C20_complete_valid (n k : Nat) (hk : 1 ≤ k) (l : List Nat) (hv : Valid n 0 l)
    (hlen : l.length = k) : l ∈ selections n k :=
  (mem_selections n k hk l).mpr (sel_iff.mpr ⟨hv, hlen⟩)

example : (selections 5 3).count [0, 2, 3] = 1 :=
  (C20_complete 5 3 (by omega) [0, 2, 3] (by decide +kernel) (by decide +kernel) rfl).2

/-- in terms of subsets: every `k`-subset of `{0, …, n-1}`, as its sorted list, is yielded exactly
    once, and only such lists are yielded -/
theorem C20_subsets (n k : Nat) (hk : 1 ≤ k) :
    (∀ s : Finset Nat, s ⊆ Finset.range n → s.card = k → (selections n k).count (s.sort (· ≤ ·)) = 1) ∧
    (∀ l ∈ selections n k, ∃ s : Finset Nat, s ⊆ Finset.range n ∧ s.card = k ∧ s.sort (· ≤ ·) = l) := by
  refine ⟨fun s hs hc => selections_count n k hk _ (Finset.sortedLT_sort s).pairwise ?_ ?_, fun l hl => ?_⟩
  · intro a ha
    rw [Finset.mem_sort] at ha
    exact Finset.mem_range.mp (hs ha)
  · rw [Finset.length_sort, hc]
  · -- the yielded list is the sorted list of its set of entries
    obtain ⟨h1, h2, h3⟩ := selections_sound n k l hl
    have hnd : l.Nodup := h1.imp Nat.ne_of_lt
    exact ⟨l.toFinset, fun a ha => Finset.mem_range.mpr (h2 a (List.mem_toFinset.mp ha)),
      by rw [List.toFinset_card_of_nodup hnd, h3], (List.toFinset_sort _ hnd).mpr (h1.imp Nat.le_of_lt)⟩

/-- the combinatorial rank is a bijection from the selections onto `[0, choose n k)` -/
theorem C20_rank_bij (n k : Nat) :
    (∀ l₁ l₂, Sel n k l₁ → Sel n k l₂ → rank 0 l₁ = rank 0 l₂ → l₁ = l₂) ∧
    (∀ l, Sel n k l → rank 0 l < Nat.choose n k) ∧
    (∀ i, i < Nat.choose n k → ∃ l, Sel n k l ∧ rank 0 l = i) := by
  refine ⟨fun _ _ => rank_inj, fun l h => ?_, fun i hi => ?_⟩
  · obtain ⟨hv, rfl⟩ := sel_iff.mp h
    exact hv.rank_lt
  · have h : i < (N2.colexIdx n k).length := by rw [length_colexIdx]; exact hi
    exact ⟨_, (mem_colexIdx n k _).mp (List.getElem_mem h), rank_colexIdx h⟩

/-- (iii) the iterator of util.rs and the recursive colex enumeration of the node model agree, in
    order, for `k ≥ 1` (for `k = 0` the iterator yields nothing, `colexIdx n 0 = [[]]`) -/
theorem C20_eq_colexIdx (n k : Nat) (hk : 1 ≤ k) : selections n k = N2.colexIdx n k :=
  selections_eq_colexIdx n k hk

/-- the element selections used by the node model are the iterator's index selections applied
    to the list, for every `k` -/
theorem C20_node_selections.{u} {α : Type u} (l : List α) (k : Nat) :
    N2.selections l k = (selections l.length k).map (fun idx => idx.filterMap (fun i => l[i]?)) := by
  have hb : (k == 0 || decide (k > l.length)) = true ↔ (k = 0 ∨ k > l.length) := by
    rw [Bool.or_eq_true, beq_iff_eq, decide_eq_true_eq]
  unfold N2.selections
  split
  · next h => rw [selections_empty _ _ (hb.mp h)]; rfl
  · next h => rw [selections_eq_colexIdx _ _ (Nat.pos_of_ne_zero fun e => h (hb.mpr (Or.inl e)))]

#print axioms C20_nodup
#print axioms C20_complete
#print axioms C20_subsets
#print axioms C20_rank_bij
#print axioms C20_eq_colexIdx
#print axioms C20_node_selections

end Props
