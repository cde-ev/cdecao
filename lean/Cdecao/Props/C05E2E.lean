import Cdecao.Props.C01Cde
import Cdecao.Props.C04
import Cdecao.Props.C05
import Cdecao.Props.C11
import Cdecao.Proofs.NodeSpecAsm
/-! # C05 / C11 end to end on the CdE path: reader ∘ search ∘ writer

Composed here: `C01_C08_cde` / `C10_cde` (Props/C01Cde.lean: whatever the reader model accepts, the
incumbent of the parallel search — any thread count, any schedule — satisfies the hard constraints
of the problem that was read, and no node makes the node solver panic), `C05_consistent` /
`C11_consistent` (for ANY assignment list satisfying those constraints the objects `CD.writeRegs` /
`CD.writeCourses` of the import file are consistent with the export), and the termination theorems
of Props/C04.lean.

What the end-to-end theorems quantify over (common to all of them): every export value `data` and
options `o` on which the reader model succeeds with `(parts, courses, amb)`; every room list
`rooms`, float behaviour `R`, initial bound `top` and thread count `T`; every configuration `c`
reachable in the engine model on the caobab node solver for the problem that was read (= every
schedule, at every moment, finished or not); every incumbent `al` of `c`.

Hypotheses that remain, and why:
* `ChoiceLen data amb` — the `hlen` of `C01_C08_cde`: no registration lists more than
  `N2.WEIGHT + 1 = 50001` choices in the selected track. The reader does not check this (neither
  does io::cdedb::read), so it cannot be discharged from `CD.read … = .ok …`; it keeps the penalties
  below the weight offset.
* `NodupKeys data` — the keys of the `courses` object are distinct as parsed numbers. Not derivable
  in the model (`J.obj` is an arbitrary association list; `"7"` and `"07"` parse alike).
  `C05_end_to_end_anyKeys` is the composition without it. -/
namespace Props
open CD N2

/-! The solver works on `toInstR parts courses rooms`, the writer theorems speak of
`toInst parts courses`: the same problem, since the specification does not read the `rooms` field. -/

theorem toInstR_none (parts : List CD.Part) (courses : List CD.Course) :
    toInstR parts courses none = toInst parts courses := rfl

theorem toInstR_eq (parts : List CD.Part) (courses : List CD.Course) (rooms : Option (List Nat)) :
    toInstR parts courses rooms = { toInst parts courses with rooms := rooms } := rfl

theorem toInstR_cs (parts : List CD.Part) (courses : List CD.Course) (rooms : Option (List Nat)) :
    (toInstR parts courses rooms).cs = (toInst parts courses).cs := rfl

theorem toInstR_ps (parts : List CD.Part) (courses : List CD.Course) (rooms : Option (List Nat)) :
    (toInstR parts courses rooms).ps = (toInst parts courses).ps := rfl

theorem takesPlace_rooms (cs : List N2.Course) (ps : List N2.Part) (r r' : Option (List Nat))
    (a : Nat → Option Nat) (c : Nat) :
    G.takesPlace ⟨cs, ps, r⟩ a c ↔ G.takesPlace ⟨cs, ps, r'⟩ a c := Iff.rfl

theorem attendees_rooms (cs : List N2.Course) (ps : List N2.Part) (r r' : Option (List Nat))
    (a : Nat → Option Nat) (c : Nat) :
    G.attendees ⟨cs, ps, r⟩ a c = G.attendees ⟨cs, ps, r'⟩ a c := rfl

theorem scoreOf_rooms (cs : List N2.Course) (ps : List N2.Part) (r r' : Option (List Nat))
    (a : Nat → Option Nat) :
    G.scoreOf ⟨cs, ps, r⟩ a = G.scoreOf ⟨cs, ps, r'⟩ a := rfl

theorem hardOK_rooms (cs : List N2.Course) (ps : List N2.Part) (r r' : Option (List Nat))
    (a : Nat → Option Nat) :
    G.HardOK ⟨cs, ps, r⟩ a ↔ G.HardOK ⟨cs, ps, r'⟩ a :=
  ⟨fun h => ⟨h.range, h.instr, h.min, h.max, h.chosen, h.only⟩,
   fun h => ⟨h.range, h.instr, h.min, h.max, h.chosen, h.only⟩⟩

theorem hardOK_toInstR_iff (parts : List CD.Part) (courses : List CD.Course)
    (rooms : Option (List Nat)) (a : Nat → Option Nat) :
    G.HardOK (toInstR parts courses rooms) a ↔ G.HardOK (toInst parts courses) a :=
  hardOK_rooms _ _ rooms none a

theorem takesPlace_toInstR_iff (parts : List CD.Part) (courses : List CD.Course)
    (rooms : Option (List Nat)) (a : Nat → Option Nat) (c : Nat) :
    G.takesPlace (toInstR parts courses rooms) a c ↔ G.takesPlace (toInst parts courses) a c :=
  Iff.rfl

theorem attendees_toInstR (parts : List CD.Part) (courses : List CD.Course)
    (rooms : Option (List Nat)) (a : Nat → Option Nat) (c : Nat) :
    G.attendees (toInstR parts courses rooms) a c = G.attendees (toInst parts courses) a c := rfl

theorem scoreOf_toInstR (parts : List CD.Part) (courses : List CD.Course)
    (rooms : Option (List Nat)) (a : Nat → Option Nat) :
    G.scoreOf (toInstR parts courses rooms) a = G.scoreOf (toInst parts courses) a := rfl

theorem toInstR_P_eq (parts : List CD.Part) (courses : List CD.Course) (rooms : Option (List Nat)) :
    (toInstR parts courses rooms).P = (toInst parts courses).P := rfl

theorem toInstR_C_eq (parts : List CD.Part) (courses : List CD.Course) (rooms : Option (List Nat)) :
    (toInstR parts courses rooms).C = (toInst parts courses).C := rfl

/-- the `hlen` of `C01_C08_cde` / `C10_cde`: in the `registrations` object of the export no
    registration lists more than `N2.WEIGHT + 1 = 50001` choices in the track `amb.trackId` -/
def ChoiceLen (data : JS.J) (amb : Ambience) : Prop :=
  ∀ rdata, (data.get "registrations").bind JS.J.asObject = some rdata →
    ∀ kv ∈ rdata, ∀ chs, regChoices kv.2 amb.trackId = some chs → chs.length ≤ N2.WEIGHT + 1

open N2.G in
/-- the conclusion of `C05_consistent`, verbatim (shape, (a)–(e): see its doc comment) -/
def C05Clauses (data : JS.J) (o : Opts) (parts : List CD.Part) (courses : List CD.Course)
    (amb : Ambience) (al : List (Option Nat)) : Prop :=
  ∃ partId trackId cdata rdata, Selected data o amb partId trackId cdata rdata ∧
    -- shape of the registration entries
    (∀ rid cid, (rid, cid) ∈ writeRegs parts courses al ↔
      ∃ (p : Nat) (pp : CD.Part) (c : Nat), parts[p]? = some pp ∧ al[p]? = some (some c) ∧
        rid = pp.dbid ∧ cid = (courses.getD c default).dbid) ∧
    -- (a), (b), (c)
    (∀ rid cid, (rid, cid) ∈ writeRegs parts courses al →
      ∃ rkv ∈ rdata, ∃ ckv ∈ cdata,
        RegNamed o partId trackId cdata rkv rid ∧ CourseNamed o trackId ckv cid ∧
        (cid, true) ∈ writeCourses courses al ∧ ChoseOrInstructs trackId rkv.2 cid) ∧
    -- (d)
    (∀ c cid b, (writeCourses courses al)[c]? = some (cid, b) →
      ∃ ckv ∈ cdata, CourseNamed o trackId ckv cid ∧
        (b = true ↔ takesPlace (toInst parts courses) (fun p => al.getD p none) c) ∧
        (b = true → courseMinSize ckv.2 ≤
          attendees (toInst parts courses) (fun p => al.getD p none) c +
            ignoredCount o partId trackId rdata cid false) ∧
        (attendees (toInst parts courses) (fun p => al.getD p none) c = 0 ∨
          attendees (toInst parts courses) (fun p => al.getD p none) c +
            ignoredCount o partId trackId rdata cid false ≤ courseMaxSize ckv.2)) ∧
    -- (e)
    (∀ cid, (cid, false) ∈ writeCourses courses al →
      ∀ rid, (rid, cid) ∉ writeRegs parts courses al)

open N2.G in
/-- the conclusion of `C05_consistent_anyKeys`, verbatim ((a)–(d) without key distinctness) -/
def C05ClausesAnyKeys (data : JS.J) (o : Opts) (parts : List CD.Part) (courses : List CD.Course)
    (amb : Ambience) (al : List (Option Nat)) : Prop :=
  ∃ partId trackId cdata rdata co, Selected data o amb partId trackId cdata rdata ∧
    readCourses cdata trackId o = .ok co ∧
    (∀ rid cid, (rid, cid) ∈ writeRegs parts courses al →
      ∃ rkv ∈ rdata, ∃ ckv ∈ cdata,
        RegNamed o partId trackId cdata rkv rid ∧ CourseNamed o trackId ckv cid ∧
        (cid, true) ∈ writeCourses courses al ∧ ChoseOrInstructs trackId rkv.2 cid) ∧
    (∀ c cid b, (writeCourses courses al)[c]? = some (cid, b) →
      ∃ ckv ∈ cdata, CourseNamed o trackId ckv cid ∧
        (b = true ↔ takesPlace (toInst parts courses) (fun p => al.getD p none) c) ∧
        (b = true → courseMinSize ckv.2 ≤
          attendees (toInst parts courses) (fun p => al.getD p none) c +
            invCount o partId trackId co rdata c false) ∧
        (attendees (toInst parts courses) (fun p => al.getD p none) c = 0 ∨
          attendees (toInst parts courses) (fun p => al.getD p none) c +
            invCount o partId trackId co rdata c false ≤ courseMaxSize ckv.2))

open N2.G in
/-- the conclusion of `C11_consistent`, verbatim (see its doc comment) -/
def C11Clauses (data : JS.J) (o : Opts) (parts : List CD.Part) (courses : List CD.Course)
    (amb : Ambience) (al : List (Option Nat)) : Prop :=
  ∃ partId trackId cdata rdata, Selected data o amb partId trackId cdata rdata ∧
    -- (a)
    (∀ rid cid, (rid, cid) ∈ writeRegs parts courses al →
      ∃ rkv ∈ rdata, RegNamed o partId trackId cdata rkv rid ∧
        (o.ignoreAssigned = true → ∀ cid' b, (cid', b) ∈ writeCourses courses al →
          regCourseId rkv.2 trackId ≠ some cid')) ∧
    -- (f) fixed, (d) sizes
    (∀ c cid b, (writeCourses courses al)[c]? = some (cid, b) →
      ∃ ckv ∈ cdata, CourseNamed o trackId ckv cid ∧
        (ignoredCount o partId trackId rdata cid true +
            ignoredCount o partId trackId rdata cid false ≠ 0 →
          ((toInst parts courses).course c).fixed = true ∧
          takesPlace (toInst parts courses) (fun p => al.getD p none) c ∧ b = true) ∧
        (b = true → courseMinSize ckv.2 ≤
          attendees (toInst parts courses) (fun p => al.getD p none) c +
            ignoredCount o partId trackId rdata cid false) ∧
        (attendees (toInst parts courses) (fun p => al.getD p none) c = 0 ∨
          attendees (toInst parts courses) (fun p => al.getD p none) c +
            ignoredCount o partId trackId rdata cid false ≤ courseMaxSize ckv.2)) ∧
    -- (f) cancelled courses
    (o.ignoreCancelled = true → ∀ ckv ∈ cdata, courseSegment ckv.2 trackId = some false →
      ∀ cid, JS.parseNat ckv.1 = some cid →
        (∀ b, (cid, b) ∉ writeCourses courses al) ∧
        (∀ rid, (rid, cid) ∉ writeRegs parts courses al))

/-- `C05_consistent` with its conclusion folded into `C05Clauses` (the two are definitionally the
    same proposition: the proof term is `C05_consistent` itself) -/
theorem C05_consistent_clauses (data : JS.J) (o : Opts) (parts : List CD.Part)
    (courses : List CD.Course) (amb : Ambience) (al : List (Option Nat))
    (hread : CD.read data o = .ok (parts, courses, amb)) (hlen : al.length = parts.length)
    (hok : G.HardOK (toInst parts courses) (fun p => al.getD p none)) (hkeys : NodupKeys data) :
    C05Clauses data o parts courses amb al :=
  C05_consistent data o parts courses amb al hread hlen hok hkeys

theorem C05_consistent_anyKeys_clauses (data : JS.J) (o : Opts) (parts : List CD.Part)
    (courses : List CD.Course) (amb : Ambience) (al : List (Option Nat))
    (hread : CD.read data o = .ok (parts, courses, amb)) (hlen : al.length = parts.length)
    (hok : G.HardOK (toInst parts courses) (fun p => al.getD p none)) :
    C05ClausesAnyKeys data o parts courses amb al :=
  C05_consistent_anyKeys data o parts courses amb al hread hlen hok

theorem C11_consistent_clauses (data : JS.J) (o : Opts) (parts : List CD.Part)
    (courses : List CD.Course) (amb : Ambience) (al : List (Option Nat))
    (hread : CD.read data o = .ok (parts, courses, amb)) (hlen : al.length = parts.length)
    (hok : G.HardOK (toInst parts courses) (fun p => al.getD p none)) (hkeys : NodupKeys data) :
    C11Clauses data o parts courses amb al :=
  C11_consistent data o parts courses amb al hread hlen hok hkeys

/-- The incumbent `al` of a reachable configuration has one entry per participant, the assignment
    `p ↦ al.getD p none` that the writer theorems speak about satisfies the hard constraints of
    `toInst parts courses`, and the stored score is its documented score: exactly the hypotheses
    `hlen`, `hok` of `C05_consistent` / `C11_consistent`. Needs `ChoiceLen` only. -/
theorem cde_incumbent {data : JS.J} {o : Opts} {parts : List CD.Part} {courses : List CD.Course}
    {amb : Ambience} (h : CD.read data o = .ok (parts, courses, amb)) (hlen : ChoiceLen data amb)
    (rooms : Option (List Nat)) (R : RoomFns) (top T : Nat) :
    letI := solverOf (toInstR parts courses rooms) R
    ∀ c : Eng3.Cfg Node (List (Option Nat)),
      Eng3.Reach rootNode top T c → ∀ al, c.best = some al →
      al.length = parts.length ∧
      G.HardOK (toInst parts courses) (fun p => al.getD p none) ∧
      c.bestScore = G.scoreOf (toInst parts courses) (fun p => al.getD p none) := by
  intro c hr al hal
  obtain ⟨a, hal', hhard, hsc⟩ := C01_C08_cde h rooms R hlen top T c hr al hal
  have hag : ∀ p, p < (toInst parts courses).P → a p = al.getD p none := fun p hp => by
    rw [hal']; exact (N2.G.ofList_map _ a p hp).symm
  refine ⟨?_, ?_, ?_⟩
  · rw [hal', List.length_map, List.length_range, toInstR_P]
  · exact N2.hardOK_congr (toInst parts courses) a _ hag
      ((hardOK_toInstR_iff parts courses rooms a).1 hhard)
  · rw [hsc, scoreOf_toInstR parts courses rooms a]
    exact N2.scoreOf_congr (toInst parts courses) a _ hag

/-- C05 end to end. Under `ChoiceLen` and `NodupKeys` (the two hypotheses the reader's
    acceptance does not give) the registrations / courses objects `writeRegs parts courses al` /
    `writeCourses courses al` of the import file written from any incumbent satisfy all clauses of
    `C05_consistent` against the export: shape, (a)–(e). -/
theorem C05_end_to_end {data : JS.J} {o : Opts} {parts : List CD.Part} {courses : List CD.Course}
    {amb : Ambience} (h : CD.read data o = .ok (parts, courses, amb)) (hlen : ChoiceLen data amb)
    (hkeys : NodupKeys data) (rooms : Option (List Nat)) (R : RoomFns) (top T : Nat) :
    letI := solverOf (toInstR parts courses rooms) R
    ∀ c : Eng3.Cfg Node (List (Option Nat)),
      Eng3.Reach rootNode top T c → ∀ al, c.best = some al →
      C05Clauses data o parts courses amb al := by
  intro c hr al hal
  obtain ⟨hl, hok, _⟩ := cde_incumbent h hlen rooms R top T c hr al hal
  exact C05_consistent data o parts courses amb al h hl hok hkeys

/-- C05 end to end without key distinctness: the same composition with
    `C05_consistent_anyKeys` — clauses (a)–(d), the ignored attendees counted through the reader's
    course table; no hypothesis on the keys of the `courses` object. -/
theorem C05_end_to_end_anyKeys {data : JS.J} {o : Opts} {parts : List CD.Part}
    {courses : List CD.Course} {amb : Ambience} (h : CD.read data o = .ok (parts, courses, amb))
    (hlen : ChoiceLen data amb) (rooms : Option (List Nat)) (R : RoomFns) (top T : Nat) :
    letI := solverOf (toInstR parts courses rooms) R
    ∀ c : Eng3.Cfg Node (List (Option Nat)),
      Eng3.Reach rootNode top T c → ∀ al, c.best = some al →
      C05ClausesAnyKeys data o parts courses amb al := by
  intro c hr al hal
  obtain ⟨hl, hok, _⟩ := cde_incumbent h hlen rooms R top T c hr al hal
  exact C05_consistent_anyKeys data o parts courses amb al h hl hok

/-- C11 end to end. Under the same hypotheses the import file written from the incumbent satisfies
    all clauses of `C11_consistent`: an ignored registration is never named; a course with ignored pre-assigned people is fixed, takes place and is written as taking place;
    the places of ignored attendees are reserved in `min_size` / `max_size`; with
    `--ignore-cancelled` a cancelled course appears nowhere in the file. -/
theorem C11_end_to_end {data : JS.J} {o : Opts} {parts : List CD.Part} {courses : List CD.Course}
    {amb : Ambience} (h : CD.read data o = .ok (parts, courses, amb)) (hlen : ChoiceLen data amb)
    (hkeys : NodupKeys data) (rooms : Option (List Nat)) (R : RoomFns) (top T : Nat) :
    letI := solverOf (toInstR parts courses rooms) R
    ∀ c : Eng3.Cfg Node (List (Option Nat)),
      Eng3.Reach rootNode top T c → ∀ al, c.best = some al →
      C11Clauses data o parts courses amb al := by
  intro c hr al hal
  obtain ⟨hl, hok, _⟩ := cde_incumbent h hlen rooms R top T c hr al hal
  exact C11_consistent data o parts courses amb al h hl hok hkeys

/-- `ChoiceLen` on the example export: the four registrations list 2, 1, 1, 0 choices -/
theorem Ex_choiceLen : ChoiceLen Ex.doc Ex.amb := by
  have hd : ∀ kv ∈ Ex.rdata, ∀ chs ∈ regChoices kv.2 Ex.amb.trackId, chs.length ≤ 2 := by
    decide +kernel
  intro rdata hrd kv hkv chs hchs
  cases hrd
  exact Nat.le_trans (hd kv hkv chs hchs) (by decide)

/-- the hypotheses of `C05_end_to_end` / `C11_end_to_end` on the export are satisfiable: on `CD.Ex`
    (track 3, `--ignore-cancelled`, `--ignore-assigned`) the reader succeeds, the choice lists are
    short and the course keys distinct — so for every room list, float behaviour, thread count and
    schedule the file written from any incumbent is consistent with `Ex.doc` -/
example := C05_end_to_end Ex.read_eq Ex_choiceLen Ex.nodupKeys
example := C11_end_to_end Ex.read_eq Ex_choiceLen Ex.nodupKeys

/-! The vocabulary of the termination statements. `Eng3.Run c evs c'`: the event list `evs` (one event = one atomic step of one worker thread, or a
`wake` = `notify_one` / spurious wake-up) drives the engine from `c` to `c'`; `Reach` = reachable by
some run from `Eng3.init rootNode top T` (`C04_run_bound_reach`). `AllFinished`: every worker has
stopped (returned or died); `AllDone`: every worker has returned; `outcome pcs = some false`: the
join loop of `solve` passes every worker, i.e. `solve` returns normally. `c.best` in such a
configuration is what `solve` returns, and `writeRegs parts courses al` / `writeCourses courses al`
for `c.best = some al` is what the program then writes (for `c.best = none` it writes no file). -/
open Eng3

/-- what the program writes from the result `best` of the search is consistent with the export:
    either nothing is written, or the file written from the reported list satisfies all clauses of
    `C05_consistent` and of `C11_consistent` -/
def WrittenConsistent (data : JS.J) (o : Opts) (parts : List CD.Part) (courses : List CD.Course)
    (amb : Ambience) (best : Option (List (Option Nat))) : Prop :=
  best = none ∨ ∃ al, best = some al ∧
    C05Clauses data o parts courses amb al ∧ C11Clauses data o parts courses amb al

theorem written_consistent {data : JS.J} {o : Opts} {parts : List CD.Part}
    {courses : List CD.Course} {amb : Ambience} (h : CD.read data o = .ok (parts, courses, amb))
    (hlen : ChoiceLen data amb) (hkeys : NodupKeys data) (rooms : Option (List Nat)) (R : RoomFns)
    (top T : Nat) :
    letI := solverOf (toInstR parts courses rooms) R
    ∀ c : Cfg Node (List (Option Nat)), Reach rootNode top T c →
      WrittenConsistent data o parts courses amb c.best := by
  intro c hr
  cases hb : c.best with
  | none => exact Or.inl rfl
  | some al =>
    exact Or.inr ⟨al, rfl, C05_end_to_end h hlen hkeys rooms R top T c hr al hb,
      C11_end_to_end h hlen hkeys rooms R top T c hr al hb⟩

/-- `C10_cde` in the form the termination theorems take: on the CdE path no node of the search tree
    has the verdict `panic` -/
theorem cde_no_panic {data : JS.J} {o : Opts} {parts : List CD.Part} {courses : List CD.Course}
    {amb : Ambience} (h : CD.read data o = .ok (parts, courses, amb)) (hlen : ChoiceLen data amb)
    (rooms : Option (List Nat)) (R : RoomFns) :
    letI := solverOf (toInstR parts courses rooms) R
    ∀ n : Node, Desc n rootNode →
      isPanic (Solver.res n : Res (List (Option Nat))) = false := by
  exact fun n hd => isPanic_eq_false_iff.2 (C10_cde h rooms R hlen n hd)

/-- A finished search on the CdE path has ended normally and what is written is consistent.
    In a reachable configuration `c` in which every worker has stopped (`AllFinished`: returned or
    died) in fact no worker died (`AllDone`; by `C10_cde` no node panics), `solve` returns normally
    (`outcome = some false`), the queue is empty and nobody is busy, and either the search reports
    nothing or the file written from the reported list satisfies the clauses of C05 and C11. -/
theorem cde_finished_done {data : JS.J} {o : Opts} {parts : List CD.Part}
    {courses : List CD.Course} {amb : Ambience} (h : CD.read data o = .ok (parts, courses, amb))
    (hlen : ChoiceLen data amb) (hkeys : NodupKeys data) (rooms : Option (List Nat)) (R : RoomFns)
    (top T : Nat) :
    letI := solverOf (toInstR parts courses rooms) R
    ∀ c : Cfg Node (List (Option Nat)), Reach rootNode top T c → AllFinished c →
      AllDone c ∧ outcome c.pcs = some false ∧
      WrittenConsistent data o parts courses amb c.best := by
  let S := solverOf (toInstR parts courses rooms) R
  intro c hr hf
  have hd := allDone_of_finished (cde_no_panic h hlen rooms R) hr hf
  exact ⟨hd, (outcome_false_iff_allDone c).2 hd, written_consistent h hlen hkeys rooms R top T c hr⟩

/-- C05 total, end to end: the program terminates and what it writes is consistent.
    For `T ≥ 1`, every configuration `c` reached from the start by a history `evs0` with at most `s`
    `wake` events (`notify_one` or spurious) and every continuation `evs` of `c` without `wake`
    events — whatever the scheduler has done so far: the continuation can be extended, without
    `wake` events, to a configuration `c''` in which every worker has returned normally, the whole
    within `5 * treeSize + 3T + 3(T² + s)` steps (so no scheduler choice among the non-wake events
    avoids termination); `solve` returns normally; and either it reports nothing or the file
    written from what it reports satisfies all clauses of `C05_consistent` and `C11_consistent`
    against the export. -/
theorem C05_total_end_to_end {data : JS.J} {o : Opts} {parts : List CD.Part}
    {courses : List CD.Course} {amb : Ambience} (h : CD.read data o = .ok (parts, courses, amb))
    (hlen : ChoiceLen data amb) (hkeys : NodupKeys data) (rooms : Option (List Nat)) (R : RoomFns)
    {top T s : Nat} (hT : 0 < T) :
    letI := solverOf (toInstR parts courses rooms) R
    ∀ {c : Cfg Node (List (Option Nat))} {evs0 : List Ev},
      Run (init rootNode top T) evs0 c → wakeEvents evs0 ≤ s →
      ∀ (evs : List Ev) (c' : Cfg Node (List (Option Nat))), Run c evs c' →
        (∀ ev ∈ evs, ev.isWake = false) →
        ∃ (evs' : List Ev) (c'' : Cfg Node (List (Option Nat))), Run c' evs' c'' ∧
          (∀ ev ∈ evs', ev.isWake = false) ∧ AllDone c'' ∧
          evs.length + evs'.length ≤
            5 * treeSize (toInstR parts courses rooms) R rootNode + 3 * T + 3 * (T * T + s) ∧
          outcome c''.pcs = some false ∧
          WrittenConsistent data o parts courses amb c''.best := by
  let S := solverOf (toInstR parts courses rooms) R
  intro c evs0 h0 hs evs c' hrun hwf
  obtain ⟨evs', c'', h', hwf', hd, hle, hout⟩ :=
    C04_terminates_done (fun n : Node => 5 * treeSize (toInstR parts courses rooms) R n)
      (caobab_budget_treeSize (toInstR parts courses rooms) R) hT h0 hs
      (cde_no_panic h hlen rooms R) evs c' hrun hwf
  have hr'' : Reach rootNode top T c'' := reach_iff_run.2 ⟨_, (h0.append hrun).append h'⟩
  exact ⟨evs', c'', h', hwf', hd, hle, hout, written_consistent h hlen hkeys rooms R top T c'' hr''⟩

/-- From the start: the special case `c = init`, empty history, empty continuation. For
    `T ≥ 1` there IS a run of the program from its initial configuration, of at most
    `5 * treeSize + 3T + 3T²` steps, to a configuration in which every worker has returned
    normally and `solve` returns normally; there the program writes nothing or a file that
    satisfies all clauses of C05 and C11. (That every other finished configuration is as good is
    `cde_finished_done`; that every wake-free schedule ends up in one is `C05_total_end_to_end`.) -/
theorem C05_total_from_start {data : JS.J} {o : Opts} {parts : List CD.Part}
    {courses : List CD.Course} {amb : Ambience} (h : CD.read data o = .ok (parts, courses, amb))
    (hlen : ChoiceLen data amb) (hkeys : NodupKeys data) (rooms : Option (List Nat)) (R : RoomFns)
    (top : Nat) {T : Nat} (hT : 0 < T) :
    letI := solverOf (toInstR parts courses rooms) R
    ∃ (evs : List Ev) (c : Cfg Node (List (Option Nat))), Run (init rootNode top T) evs c ∧
      (∀ ev ∈ evs, ev.isWake = false) ∧ AllFinished c ∧ AllDone c ∧
      evs.length ≤ 5 * treeSize (toInstR parts courses rooms) R rootNode + 3 * T + 3 * (T * T) ∧
      outcome c.pcs = some false ∧ WrittenConsistent data o parts courses amb c.best := by
  let S := solverOf (toInstR parts courses rooms) R
  obtain ⟨evs, c, hrun, hwf, hd, hle, hout⟩ :=
    terminates_done_init (fun n : Node => 5 * treeSize (toInstR parts courses rooms) R n)
      (caobab_budget_treeSize (toInstR parts courses rooms) R) top hT (cde_no_panic h hlen rooms R)
  exact ⟨evs, c, hrun, hwf, fun t pc hpc => Or.inl (hd t pc hpc), hd, hle, hout,
    written_consistent h hlen hkeys rooms R top T c (reach_iff_run.2 ⟨_, hrun⟩)⟩

/-- the hypotheses of the termination theorems hold on `CD.Ex` with two threads, for every room
    list and float behaviour -/
example (rooms : Option (List Nat)) (R : RoomFns) :=
  C05_total_from_start Ex.read_eq Ex_choiceLen Ex.nodupKeys rooms R 0 (T := 2) (by decide)
example (rooms : Option (List Nat)) (R : RoomFns) :=
  @C05_total_end_to_end _ _ _ _ _ Ex.read_eq Ex_choiceLen Ex.nodupKeys rooms R 0 2 0 (by decide)
example (rooms : Option (List Nat)) (R : RoomFns) :=
  cde_finished_done Ex.read_eq Ex_choiceLen Ex.nodupKeys rooms R 0 2

/-! All hypotheses at once on `CD.Ex`, in a concrete run with an incumbent: one thread, no room list, initial bound 100000. The root node of the problem read from `Ex.doc` is
feasible (`runNodeS … rootNode = .ok (.feasible [some 0, some 0] 49999)`: participant 0 gets its
second choice, weight `50000 - 1`; participant 1 instructs course 0 and has no choices, weight 0),
so the run lock – pop – solve – lock/apply – finish ends with `best = some Ex.al`. -/

def exFinal : Cfg Node (List (Option Nat)) :=
  { pending := [], busy := 0, best := some Ex.al, bestScore := 49999, lock := none, pcs := [.done] }

/-- the run (every `step?` is evaluated by the kernel, the node solver included) -/
theorem exRun (R : RoomFns) :
    letI := solverOf (toInstR Ex.parts Ex.courses none) R
    Run (init rootNode 100000 1) [.acquire 0, .top 0 0, .solve 0, .acquire 0, .after 0] exFinal := by
  let S := solverOf (toInstR Ex.parts Ex.courses none) R
  iterate 5 refine Run.cons rfl ?_
  exact Run.nil _

/-- non-vacuity of `C05_end_to_end` / `C11_end_to_end` / `cde_finished_done` including the
    hypotheses `Reach …` and `c.best = some al`: on `CD.Ex` the configuration `exFinal` is reachable,
    finished, and its incumbent is `Ex.al`; the theorems give the clauses for the file written from
    `Ex.al`, and the stored score is the documented one -/
example (R : RoomFns) :
    C05Clauses Ex.doc Ex.opts Ex.parts Ex.courses Ex.amb Ex.al ∧
    C11Clauses Ex.doc Ex.opts Ex.parts Ex.courses Ex.amb Ex.al ∧
    G.scoreOf (toInst Ex.parts Ex.courses) (fun p => Ex.al.getD p none) = 49999 := by
  let S := solverOf (toInstR Ex.parts Ex.courses none) R
  have hr : Reach rootNode 100000 1 exFinal := reach_iff_run.2 ⟨_, exRun R⟩
  exact ⟨C05_end_to_end Ex.read_eq Ex_choiceLen Ex.nodupKeys none R 100000 1 exFinal hr Ex.al rfl,
    C11_end_to_end Ex.read_eq Ex_choiceLen Ex.nodupKeys none R 100000 1 exFinal hr Ex.al rfl,
    ((cde_incumbent Ex.read_eq Ex_choiceLen none R 100000 1 exFinal hr Ex.al rfl).2.2).symm⟩

example (R : RoomFns) :
    letI := solverOf (toInstR Ex.parts Ex.courses none) R
    AllFinished exFinal ∧ Reach rootNode 100000 1 exFinal := by
  let S := solverOf (toInstR Ex.parts Ex.courses none) R
  refine ⟨?_, reach_iff_run.2 ⟨_, exRun R⟩⟩
  intro t pc hpc
  match t, hpc with
  | 0, hpc => exact Or.inl (Option.some.inj hpc).symm

end Props

#print axioms Props.hardOK_toInstR_iff
#print axioms Props.cde_incumbent
#print axioms Props.C05_end_to_end
#print axioms Props.C05_end_to_end_anyKeys
#print axioms Props.C11_end_to_end
#print axioms Props.written_consistent
#print axioms Props.cde_no_panic
#print axioms Props.cde_finished_done
#print axioms Props.C05_total_end_to_end
#print axioms Props.C05_total_from_start
