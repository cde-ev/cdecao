import Cdecao.Proofs.ScoreBounds
import Cdecao.Proofs.NodeDecide
import Cdecao.Proofs.QualityProofs
/-! # C10 (arithmetic half) — the scores fit the machine types

The model computes scores in unbounded `Nat`; the Rust program holds them in `u32` (`Score = u32`)
and computes the solution quality in `usize`. Under an explicit size bound on the instance no score
the model ever computes reaches `2^32`, and the subtraction in `solution_quality` does not underflow.
`I.m` is the total number of course places (the number of matrix columns), `I.P` the number of
participants, `50000` the constant `WEIGHT`. -/
namespace Props
open N2

/-- explicit bound, node level: whatever the node (inside the search tree or not) and whatever the
    room arithmetic, a score reported by `run_bab_node` — with an infeasible or a feasible verdict — is
    at most `(number of course places + number of instructor entries) * WEIGHT` -/
theorem C10_node_score_le (I : Inst) (R : RoomFns) (nd : Node)
    (hpen : ∀ p ch, ch ∈ (I.part p).choices → ch.penalty ≤ WEIGHT) :
    (∀ kids s, runNodeS I R nd = .ok (.infeasible kids s) →
      s ≤ (I.m + I.allInstructors.length) * WEIGHT) ∧
    (∀ al s, runNodeS I R nd = .ok (.feasible al s) →
      s ≤ (I.m + I.allInstructors.length) * WEIGHT) :=
  node_score_le I R nd hpen

/-- explicit bound, engine level: at every reachable configuration of the parallel search — any thread
    count `T`, any schedule, any initial parent score `top` of the root — the incumbent's score and
    the parent score stored with every pending node obey the node bound (resp. `top`) -/
theorem C10_engine_scores_le (I : Inst) (R : RoomFns)
    (hpen : ∀ p ch, ch ∈ (I.part p).choices → ch.penalty ≤ WEIGHT) (top T : Nat) :
    letI := solverOf I R
    ∀ c : Eng3.Cfg Node (List (Option Nat)), Eng3.Reach rootNode top T c →
      c.bestScore ≤ (I.m + I.allInstructors.length) * WEIGHT ∧
      ∀ e ∈ c.pending, e.2 ≤ max top ((I.m + I.allInstructors.length) * WEIGHT) :=
  engine_scores_le I R hpen top T

/-- a valid instance lists at most `I.P` instructor entries over all courses together -/
theorem C10_instructor_entries_le (I : Inst) (hv : validb I = true) :
    I.allInstructors.length ≤ I.P :=
  allInstructors_length_le_of_valid I hv

/-- C10, `u32` scores: for a valid instance with `(I.m + I.P) * 50000 < 2^32`
    * every score the node solver reports on any node fits `u32`, and
    * at every reachable configuration of the parallel search (any thread count, any schedule, root
      pushed with a parent score `top < 2^32`; the program uses `u32::MAX`) the incumbent's score and
      the parent score of every pending node fit `u32` -/
theorem C10_scores_fit_u32 (I : Inst) (R : RoomFns) (hv : validb I = true)
    (hsz : (I.m + I.P) * 50000 < 2 ^ 32) :
    (∀ nd : Node,
      (∀ kids s, runNodeS I R nd = .ok (.infeasible kids s) → s < 2 ^ 32) ∧
      (∀ al s, runNodeS I R nd = .ok (.feasible al s) → s < 2 ^ 32)) ∧
    (∀ top T : Nat, top < 2 ^ 32 →
      letI := solverOf I R
      ∀ c : Eng3.Cfg Node (List (Option Nat)), Eng3.Reach rootNode top T c →
        c.bestScore < 2 ^ 32 ∧ ∀ e ∈ c.pending, e.2 < 2 ^ 32) := by
  have hlt := Nat.lt_of_le_of_lt (scoreBound_le_of_valid I hv) hsz
  have hpen := (validb_sound I hv).1.pen
  refine ⟨fun nd => ?_, fun top T htop c hr => ?_⟩
  · obtain ⟨h1, h2⟩ := node_score_le I R nd hpen
    exact ⟨fun kids s h => Nat.lt_of_le_of_lt (h1 kids s h) hlt, fun al s h => Nat.lt_of_le_of_lt (h2 al s h) hlt⟩
  · obtain ⟨h1, h2⟩ := engine_scores_le I R hpen top T c hr
    exact ⟨Nat.lt_of_le_of_lt h1 hlt, fun e he => Nat.lt_of_le_of_lt (h2 e he) (Nat.max_lt.2 ⟨htop, hlt⟩)⟩

/-- C10, quality arithmetic: with all penalties at most `WEIGHT` (true of every valid instance)
    * the theoretical maximum score is at most `I.P * 50000`,
    * the number of participants with choices is at most `I.P`, and
    * the documented score of every assignment is at most `numReal I * 50000`, so the subtraction
      `numReal * WEIGHT - score` in `solution_quality` does not underflow -/
theorem C10_quality_fits (I : Inst)
    (hpen : ∀ p ch, ch ∈ (I.part p).choices → ch.penalty ≤ 50000) :
    QM.theoreticalMax I ≤ I.P * 50000 ∧
    QM.numReal I ≤ I.P ∧
    (∀ a : Nat → Option Nat, G.scoreOfL I a ≤ QM.numReal I * 50000) :=
  ⟨(QM.theoreticalMax_le I).trans (Nat.mul_le_mul_right _ (QM.numReal_le I)), QM.numReal_le I,
    fun a => (QM.max_ge I a).trans (QM.theoreticalMax_le I)⟩

/-- the same for a valid instance, with the machine bound: if `I.P * 50000 < 2^32` every quantity of
    the quality computation is below `2^32` -/
theorem C10_quality_fits_valid (I : Inst) (hv : validb I = true) (hsz : I.P * 50000 < 2 ^ 32) :
    QM.theoreticalMax I < 2 ^ 32 ∧
    QM.numReal I * 50000 < 2 ^ 32 ∧
    (∀ a : Nat → Option Nat, G.scoreOfL I a ≤ QM.numReal I * 50000 ∧ G.scoreOfL I a < 2 ^ 32) := by
  obtain ⟨h1, h2, h3⟩ := C10_quality_fits I (validb_sound I hv).1.pen
  have h4 : QM.numReal I * 50000 ≤ I.P * 50000 := Nat.mul_le_mul_right _ h2
  exact ⟨Nat.lt_of_le_of_lt h1 hsz, Nat.lt_of_le_of_lt h4 hsz,
    fun a => ⟨h3 a, Nat.lt_of_le_of_lt (Nat.le_trans (h3 a) h4) hsz⟩⟩

section Example
/-- non-vacuity, an instance satisfying the hypotheses: course 0 (1–2 attendees, instructor 0), course 1
    (fixed, 0–3 attendees);
    participant 0 instructor-only, 1 chose 0 (penalty 0) and 1 (penalty 5), 2 chose 1 (penalty 7) -/
def exU32 : Inst :=
  { cs := [⟨1, 2, false, [0]⟩, ⟨0, 3, true, []⟩]
    ps := [⟨[]⟩, ⟨[⟨0, 0⟩, ⟨1, 5⟩]⟩, ⟨[⟨1, 7⟩]⟩]
    rooms := none }

theorem exU32_ok : validb exU32 = true ∧ (exU32.m + exU32.P) * 50000 < 2 ^ 32 := by decide +kernel
example : validb exU32 = true ∧ (exU32.m + exU32.P) * 50000 < 2 ^ 32 := exU32_ok
example : exU32.m = 5 ∧ exU32.P = 3 ∧ exU32.allInstructors.length = 1 := by decide +kernel
example : exU32.P * 50000 < 2 ^ 32 := by decide +kernel

/-- the theorems apply to it -/
example (R : RoomFns) (nd : Node) (al : List (Option Nat)) (s : Nat)
    (h : runNodeS exU32 R nd = .ok (.feasible al s)) : s < 2 ^ 32 :=
  ((C10_scores_fit_u32 exU32 R exU32_ok.1 exU32_ok.2).1 nd).2 al s h

/-- and the conclusion is not vacuous either: the root node of this instance reports a score -/
example (R : RoomFns) :
    runNodeS exU32 R rootNode = .ok (.feasible [some 0, some 0, some 1] 99993) :=
  runNodeS_of_noRooms rfl R (by decide +kernel)
end Example

end Props
