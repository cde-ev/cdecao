import Cdecao.Model.Cdedb
import Cdecao.Proofs.ReaderProofs
/-! # C13 — the reader looks at nothing but the selected part and track (non-interference)

`CD.read` models io::cdedb::read from the JSON value on. Each per-record parser is a function of its
*views*, the few members it looks up; `CD.Agree` says two exports have the same views record by record
(same record keys in the same order), up to the two option-dependent freedoms. -/
namespace Props
open JS CD

/-- `participantBase reg partId` depends only on `parts[partId].status` and the two persona names -/
theorem C13_participantBase (reg reg' : J) (partId : Nat)
    (h1 : statusView reg partId = statusView reg' partId) (h2 : personaView reg = personaView reg') :
    participantBase reg partId = participantBase reg' partId :=
  participantBase_local h1 h2

/-- `participantCourseData reg trackId co` depends only on `tracks[trackId]`'s `course_id` /
    `course_instructor` / `choices` -/
theorem C13_participantCourseData (reg reg' : J) (trackId : Nat) (co : CoursesOut)
    (h : trackView reg trackId = trackView reg' trackId) :
    participantCourseData reg trackId co = participantCourseData reg' trackId co :=
  participantCourseData_local co h

/-- without `ignoreAssigned`, what the registration loop does with a parsed registration
    (`regApply` is the body of `readRegs.go`, see `readRegs_go_cons`) does not depend on
    `pc.assigned` -/
theorem C13_assigned_unused (td : List (String × J)) (o : Opts) (s : RState) (rid : Nat)
    (name : String) (pc : PCData) (h : o.ignoreAssigned = false) :
    regApply td o s rid name pc = regApply td o s rid name { pc with assigned := none } :=
  regApply_assigned_free td o s rid name pc h

/-- any two accepted `course_id` values give the same parse result up to `assigned` -/
theorem C13_course_id_free (co : CoursesOut) (cid cid' : J) (cin chs : Option J)
    (h : AssignedOk co cid) (h' : AssignedOk co cid') :
    (participantCourseDataV (some (some (some cid, cin, chs))) co).map forgetAssigned =
      (participantCourseDataV (some (some (some cid', cin, chs))) co).map forgetAssigned :=
  pcdV_assigned_free cin chs h h'

/-- `parseCourseBase cdata trackId` depends only on `segments[trackId]`, `nr`, `shortname`,
    `max_size`, `min_size` -/
theorem C13_parseCourseBase (c c' : J) (trackId : Nat)
    (hs : segView c trackId = segView c' trackId) (h1 : c.get "nr" = c'.get "nr")
    (h2 : c.get "shortname" = c'.get "shortname") (h3 : c.get "max_size" = c'.get "max_size")
    (h4 : c.get "min_size" = c'.get "min_size") :
    parseCourseBase c trackId = parseCourseBase c' trackId :=
  parseCourseBase_local hs h1 h2 h3 h4

/-- `roomFields` depends only on the `fields` member -/
theorem C13_roomFields (c c' : J) (o : Opts) (h : c.get "fields" = c'.get "fields") :
    roomFields c o = roomFields c' o :=
  roomFields_local o h

/-- course records that agree (`CourseAgree`: same `segments[trackId]` — or, without
    `ignoreCancelled`, both a boolean — and same `nr`, `shortname`, `max_size`, `min_size`,
    `fields`) give the same `readCourses` result, hence the same `courseIndex`: in particular,
    without `ignoreCancelled`, flipping `segments[trackId]` between true and false changes neither -/
theorem C13_readCourses (o : Opts) (trackId : Nat) (l l' : List (String × J))
    (h : ObjAgree (CourseAgree o trackId) l l') :
    readCourses l trackId o = readCourses l' trackId o :=
  readCourses_agree h

/-- registration records that agree (`RegAgree`: same views — or, without `ignoreAssigned`, any two
    accepted `course_id` values) give the same `readRegs` result -/
theorem C13_readRegs (partId trackId : Nat) (td : List (String × J)) (co : CoursesOut) (o : Opts)
    (l l' : List (String × J)) (h : ObjAgree (RegAgree o partId trackId co) l l') :
    readRegs l partId trackId td co o = readRegs l' partId trackId td co o :=
  readRegs_agree td h

/-- Two exports that agree on what the reader looks at (`CD.Agree`) are read to the same
    result — the same participants, courses and ambience data, or the same error. `Agree` lets them
    differ ONLY in:
    * members of each registration's `tracks` object other than the selected track's entry, and
      members of that entry other than `course_id` / `course_instructor` / `choices`;
    * members of each registration's `parts` object other than the selected part's entry, and
      members of that entry other than `status`;
    * `persona` members other than `given_names` / `family_name`;
    * any other top-level member of a registration (`fields`, `notes`, …);
    * each course's `segments` entries of other tracks, and course members other than `segments` /
      `nr` / `shortname` / `max_size` / `min_size` / `fields`;
    * top-level members other than kind / EVENT_SCHEMA_VERSION / CDEDB_EXPORT_EVENT_VERSION /
      timestamp / event / courses / registrations / id (e.g. lodgements);
    * when `o.ignoreAssigned = false`: the selected track's `course_id` value, among non-u64 values
      (null) and keys of the `courses` object;
    * when `o.ignoreCancelled = false`: true/false values of the selected track's segments. -/
theorem C13_read (o : Opts) (partId trackId : Nat) (e e' : J) (h : Agree o partId trackId e e') :
    CD.read e o = CD.read e' o :=
  read_agree h

/-- `Agree` is reflexive for the part and track `findTrack` selects (such a pair always exists:
    `CD.exists_selected`) -/
theorem C13_agree_refl (o : Opts) (partId trackId : Nat) (e : J)
    (hsel : ∀ parts p t td, eventParts e = some parts → findTrack parts o.track = .ok (p, t, td) →
      p = partId ∧ t = trackId) : Agree o partId trackId e e :=
  { kind := rfl, schema := rfl, legacy := rfl, timestamp := rfl, event := rfl, id := rfl,
    selected := hsel,
    courses := OptAgree.refl (ObjAgree.refl (fun _ => ⟨Or.inl rfl, rfl, rfl, rfl, rfl, rfl⟩)) _,
    regs := OptAgree.refl (ObjAgree.refl (fun _ => ⟨rfl, rfl, Or.inl rfl⟩)) _ }

/-- instance: setting (adding or replacing) any top-level member the reader does not fetch —
    `lodgements`, `lodgement_groups`, … — does not change the result -/
theorem C13_toplevel (o : Opts) (kv : List (String × J)) (k : String) (v : J)
    (hk : k ∉ ["kind", "EVENT_SCHEMA_VERSION", "CDEDB_EXPORT_EVENT_VERSION", "timestamp", "event",
               "courses", "registrations", "id"]) :
    CD.read (.obj (setKey k v kv)) o = CD.read (.obj kv) o := by
  simp only [List.mem_cons, List.not_mem_nil, or_false, not_or] at hk
  obtain ⟨k1, k2, k3, k4, k5, k6, k7, k8⟩ := hk
  have hget : ∀ k', k ≠ k' → (J.obj (setKey k v kv)).get k' = (J.obj kv).get k' :=
    fun k' hne => lookup_setKey_ne k k' v (Ne.symm hne) kv
  have hco : coursesOf (.obj (setKey k v kv)) = coursesOf (.obj kv) := by
    unfold coursesOf; rw [hget _ k6]
  have hre : regsOf (.obj (setKey k v kv)) = regsOf (.obj kv) := by
    unfold regsOf; rw [hget _ k7]
  obtain ⟨p, t, hsel⟩ := exists_selected o (.obj (setKey k v kv))
  have hr := C13_agree_refl o p t _ hsel
  refine read_agree
    { kind := hget _ k1, schema := hget _ k2, legacy := hget _ k3, timestamp := hget _ k4,
      event := hget _ k5, id := hget _ k8, selected := hsel, courses := ?_, regs := ?_ }
  · rw [← hco]; exact hr.courses
  · rw [← hre]; exact hr.regs

example : "lodgements" ∉ ["kind", "EVENT_SCHEMA_VERSION", "CDEDB_EXPORT_EVENT_VERSION", "timestamp",
    "event", "courses", "registrations", "id"] := by decide +kernel

/-! For a concrete edit `Agree` is established through `statusView_congr`, `personaView_congr`,
    `trackView_congr`, `segView_congr`, `regAgreeE_of_get`: the views depend on a few lookups only. -/

end Props

#print axioms Props.C13_participantBase
#print axioms Props.C13_participantCourseData
#print axioms Props.C13_assigned_unused
#print axioms Props.C13_course_id_free
#print axioms Props.C13_parseCourseBase
#print axioms Props.C13_readCourses
#print axioms Props.C13_readRegs
#print axioms Props.C13_read
#print axioms Props.C13_toplevel
