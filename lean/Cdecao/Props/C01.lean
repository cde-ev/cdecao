import Cdecao.Props.C01Cde  -- bin/config.py audits `C01_C08_cde` from this module
import Cdecao.Proofs.NodeEng
import Cdecao.Proofs.SpecExec
/-! # C01 — every reported assignment satisfies all hard course-assignment constraints

Model: `N2.runNodeS` (caobab.rs `run_bab_node` with `H2.run` = hungarian.rs inside) as the node
solver of the engine model `Eng3` (bab.rs). `Reach rootNode top T c` ranges over every thread count
`T`, every order of critical sections, every pop choice, every wake-up choice and spurious wake-ups.
`c.best` is what `bab::solve` returns once all workers have stopped (and at any time before). -/
namespace Props
open N2

/-- C01: whatever the parallel search holds as incumbent — for every well-formed instance, with or
    without room list (`I.rooms`), every float behaviour `R`, every thread count and schedule —
    has one entry per participant and satisfies the hard constraints `HardOK`. -/
theorem C01 (I : Inst) (R : RoomFns) (hI : InstOK I) (top T : Nat) :
    letI := solverOf I R
    ∀ c : Eng3.Cfg Node (List (Option Nat)),
      Eng3.Reach rootNode top T c → ∀ al, c.best = some al →
      al.length = I.P ∧ ∃ a : Nat → Option Nat, al = (List.range I.P).map a ∧ G.HardOK I a :=
  C01_engine I R hI top T

/-- node level: a `Feasible` verdict of any node whose cancelled courses are not fixed -/
theorem C01_node (I : Inst) (R : RoomFns) (nd : Node) (hI : InstOK I) (hnd : NodeOK I nd)
    (al : List (Option Nat)) (sc : Nat) (h : runNodeS I R nd = .ok (.feasible al sc)) :
    ∃ mm : Nat → Nat, al = (List.range I.P).map (assign I nd mm) ∧ G.HardOK I (assign I nd mm) := by
  obtain ⟨mm, h1, h2⟩ := N2.C01_node I R nd hI hnd al sc h
  exact ⟨mm.get, h1, h2⟩

/-- C01 in the form the check evaluates: the premise is the decidable validity predicate `validb`
    (exactly the quantifier of the property: indices in range, `num_min ≤ num_max`, each participant
    instructs at most one course and is listed once, no course twice in a choice list,
    `P · maxPenalty < 50000`, some participant has choices); the conclusion is the executable
    decision procedure `hardOKb` that the driver runs on every assignment the real code returns. -/
theorem C01_valid (I : Inst) (R : RoomFns) (hv : validb I = true) (top T : Nat) :
    letI := solverOf I R
    ∀ c : Eng3.Cfg Node (List (Option Nat)),
      Eng3.Reach rootNode top T c → ∀ al, c.best = some al →
      al.length = I.P ∧ ∃ a : Nat → Option Nat, al = (List.range I.P).map a ∧ G.hardOKb I a = true := by
  intro c hr al hal
  obtain ⟨h1, a, h2, h3⟩ := C01_engine I R (validb_sound I hv).1.toInstOK top T c hr al hal
  exact ⟨h1, a, h2, (G.hardOKb_iff I a).2 h3⟩

/-- non-vacuity: a concrete instance (two courses, one with an instructor and a minimum, room list)
    satisfies the premise -/
example : validb { cs := [⟨1, 2, false, [0]⟩, ⟨0, 3, true, []⟩], ps := [⟨[]⟩, ⟨[⟨0, 0⟩, ⟨1, 5⟩]⟩, ⟨[⟨1, 0⟩]⟩],
                   rooms := some [3, 2] } = true := by decide +kernel

end Props
