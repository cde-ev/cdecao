import Cdecao.Proofs.AssignQuality
/-! # C08 (assignment half) — `AssignmentQualityInfo::from_caobab_assignment(..).get_quality()`
    yields the figure of `solution_quality(score, ..)` -/
namespace Props
open N2

/-- the data collected by the loop: instructors + penalties pushed = participants with choices,
    and the pushed penalties sum to the penalties paid -/
theorem C08_assignment_quality_shape (I : Inst) (a : Nat → Option Nat) (h : G.HardOK I a)
    (hnd : ∀ p, p < I.P → ((I.part p).choices.map (fun ch => ch.course)).Nodup) (u f : Nat) :
    (QM.fromAssignment I a u f).1 + (QM.fromAssignment I a u f).2.length = (QM.realParts I).length ∧
    (QM.fromAssignment I a u f).2.sum = QM.totalPenalty I a := by
  have hc := fun p (hp : p ∈ List.range I.P) =>
    QM.contrib_hard h u f (List.mem_range.1 hp) (hnd p (List.mem_range.1 hp))
  rw [QM.fromAssignment, QM.foldl_fromAssignmentStep]
  simp only [Nat.zero_add, List.nil_append, List.flatMap_def, List.length_flatten, List.sum_flatten, List.map_map]
  constructor
  · rw [← List.sum_map_add, ← QM.numReal_eq, ← Nat.mul_one (QM.numReal I), QM.numReal_mul]
    exact congrArg List.sum (List.map_congr_left fun p hp => (hc p hp).1)
  · rw [QM.totalPenalty, QM.sum_realParts]
    exact congrArg List.sum (List.map_congr_left fun p hp => (hc p hp).2)

/-- for an assignment satisfying the hard constraints, with no participant naming a course twice,
    the quality figure computed from the assignment by `from_caobab_assignment` + `get_quality`
    is the (numerator, denominator) pair `solution_quality` computes from the documented score.
    The fall-back penalties `u` (unassigned) and `f` (unfulfilled) are arbitrary: they are never
    used under the hard constraints. -/
theorem C08_assignment_quality (I : Inst) (hpen : QM.PenOK I) (a : Nat → Option Nat)
    (h : G.HardOK I a)
    (hnd : ∀ p, p < I.P → ((I.part p).choices.map (fun ch => ch.course)).Nodup) (u f : Nat) :
    QM.getQuality (QM.fromAssignment I a u f) = QM.quality I (G.scoreOfL I a) := by
  obtain ⟨h1, h2⟩ := C08_assignment_quality_shape I a h hnd u f
  rw [QM.quality_lack_general I hpen a, QM.getQuality_eq, h1, h2]

/-- the `Nodup` hypothesis cannot be dropped: participant 0 of `QM.dupI` names course 0 twice
    (penalty 3, then 1) and is assigned to it; the penalties do not exceed `W`, the hard
    constraints hold, but the loop finds the first choice (3) while the score was built from the
    last one (1). (`HardOK` is established through its decision procedure `hardOKb`, evaluated by
    `decide`; both figures are evaluated by the kernel.) -/
theorem C08_assignment_quality_needs_nodup :
    QM.PenOK QM.dupI ∧ G.HardOK QM.dupI QM.dupA ∧
    ∀ u f, QM.getQuality (QM.fromAssignment QM.dupI QM.dupA u f) = (3, 1) ∧
      QM.quality QM.dupI (G.scoreOfL QM.dupI QM.dupA) = (1, 1) ∧
      QM.getQuality (QM.fromAssignment QM.dupI QM.dupA u f) ≠
        QM.quality QM.dupI (G.scoreOfL QM.dupI QM.dupA) := by
  refine ⟨?_, (G.hardOKb_iff _ _).1 (by decide +kernel), fun u f => ⟨rfl, by decide +kernel, ?_⟩⟩
  · intro p ch hm
    match p with
    | 0 =>
      have : ∀ ch ∈ (QM.dupI.part 0).choices, ch.penalty ≤ G.W := by decide +kernel
      exact this ch hm
    | p + 1 =>
      have e : (QM.dupI.part (p + 1)).choices = [] := rfl
      rw [e] at hm; cases hm
  · have e1 : QM.getQuality (QM.fromAssignment QM.dupI QM.dupA u f) = (3, 1) := rfl
    rw [e1]; decide +kernel

/-- non-vacuity: an instance and assignment satisfying every hypothesis of
    `C08_assignment_quality`, with both sides equal to 4/3 -/
theorem nvI_valid : validb QM.nvI = true := by decide +kernel
example : validb QM.nvI = true := nvI_valid
example : QM.PenOK QM.nvI := QM.penOK_of_valid nvI_valid
example : G.HardOK QM.nvI QM.nvA := (G.hardOKb_iff _ _).1 (by decide +kernel)
example : ∀ p, p < QM.nvI.P → ((QM.nvI.part p).choices.map (fun ch => ch.course)).Nodup := by decide +kernel
example : QM.fromAssignment QM.nvI QM.nvA 7 9 = (1, [1, 3]) := by decide +kernel
example : QM.getQuality (QM.fromAssignment QM.nvI QM.nvA 7 9) = (4, 3) ∧
    QM.quality QM.nvI (G.scoreOfL QM.nvI QM.nvA) = (4, 3) := by decide +kernel

end Props
