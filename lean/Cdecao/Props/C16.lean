import Cdecao.Model.Cli
/-! # C16 — exit status 0 means the requested output was written completely

Decision logic of the output stage of main.rs (`CLI.outputStage`): a function of (solution found,
`--print`, output requested / created / written). The faults themselves (which errno, partial
writes) are runtime behaviour the model cannot exhibit; they are injected on the real binary by
the `cli-fault` stream and compared with this function. -/
namespace Props
open CLI

/-- exit status 0 with an output file requested implies: created and written completely -/
theorem C16 (found print : Bool) (f : OutFaults) (hreq : f.requested = true)
    (h : (outputStage found print f).exit = 0) :
    found = true ∧ f.created = true ∧ f.written = true ∧ (outputStage found print f).fileComplete = true := by
  unfold outputStage at h ⊢
  cases found <;> cases hc : f.created <;> cases hw : f.written <;> simp_all [EX_CANTCREAT, EX_IOERR]

/-- conversely every fault gives a non-zero status: creation failure 73, write failure 74 —
    and the `--print` listing is still produced -/
theorem C16_faults (print : Bool) (f : OutFaults) (hreq : f.requested = true) :
    (f.created = false → (outputStage true print f).exit = EX_CANTCREAT) ∧
    (f.created = true → f.written = false → (outputStage true print f).exit = EX_IOERR) ∧
    (outputStage true print f).listing = print := by
  unfold outputStage
  cases hc : f.created <;> cases hw : f.written <;> simp_all

example : (outputStage true true { requested := true, created := true, written := false }).exit = 74 := by decide

/-- also in the model with the closed-pipe fault (`CLI.outputStage2`: `--print` into a closed pipe
    ends with status 101) exit status 0 with an output file requested implies a complete file -/
theorem C16_stdout (found print : Bool) (f : OutFaults) (closed : Bool) (hreq : f.requested = true)
    (h : (outputStage2 found print f closed).exit = 0) :
    found = true ∧ f.created = true ∧ f.written = true ∧ (outputStage2 found print f closed).fileComplete = true := by
  unfold outputStage2 at h ⊢
  split at h
  · simp at h
  · rename_i hc
    simp only [hc]
    exact C16 found print f hreq h

theorem C16_stdout_faults (f : OutFaults) (closed : Bool) (print : Bool) (hreq : f.requested = true)
    (hb : f.created = false ∨ f.written = false) : (outputStage2 true print f closed).exit ≠ 0 := by
  intro h0
  obtain ⟨-, hc, hw, -⟩ := C16_stdout true print f closed hreq h0
  rcases hb with hb | hb
  · rw [hc] at hb; cases hb
  · rw [hw] at hb; cases hb

end Props
