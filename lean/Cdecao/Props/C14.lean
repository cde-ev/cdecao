import Cdecao.Model.Listing
import Cdecao.Proofs.NodeEng
import Cdecao.Proofs.SpecExec
/-! # C14 — simple-format output and printed listing line up with the input -/
namespace Props
open N2 LM

/-- the listing of course `c` contains exactly the participants the assignment puts into `c`
    (below `P`), each flagged exactly when listed among the course's instructors -/
theorem C14_entries (I : Inst) (a : Nat → Option Nat) (c p : Nat) (b : Bool) :
    (p, b) ∈ entries I a c ↔ (p < I.P ∧ a p = some c ∧ b = (I.course c).instructors.contains p) := by
  unfold entries
  simp only [List.mem_map, List.mem_filter, List.mem_range, beq_iff_eq, Prod.mk.injEq]
  constructor
  · rintro ⟨q, ⟨hq, hq2⟩, rfl, rfl⟩
    exact ⟨hq, hq2, rfl⟩
  · rintro ⟨h1, h2, h3⟩
    exact ⟨p, ⟨h1, h2⟩, rfl, h3.symm⟩

/-- in participant order, without repetition -/
theorem C14_entries_sorted (I : Inst) (a : Nat → Option Nat) (c : Nat) :
    ((entries I a c).map (·.1)).Pairwise (· < ·) := by
  unfold entries
  rw [List.map_map, show ((fun x : Nat × Bool => x.1) ∘ fun p => (p, (I.course c).instructors.contains p)) = id from rfl,
    List.map_id]
  exact List.Pairwise.filter _ List.pairwise_lt_range

/-- the `assignment` array of the simple-format output: one entry per participant, each `null`
    or a valid course index (for every valid instance, thread count and schedule) -/
theorem C14_array (I : Inst) (R : RoomFns) (hv : validb I = true) (top T : Nat) :
    letI := solverOf I R
    ∀ c : Eng3.Cfg Node (List (Option Nat)),
      Eng3.Reach rootNode top T c → ∀ al, c.best = some al →
      al.length = I.P ∧ ∀ x ∈ al, ∀ k, x = some k → k < I.C := by
  intro c hr al hal
  obtain ⟨h1, a, rfl, h3⟩ := C01_engine I R (validb_sound I hv).1.toInstOK top T c hr al hal
  refine ⟨h1, fun x hx k hk => ?_⟩
  obtain ⟨p, hp, rfl⟩ := List.mem_map.1 hx
  exact h3.range p (List.mem_range.1 hp) k hk

end Props
