import Cdecao.Props.Main
import Cdecao.Props.C03
/-! C03 at program level: `--num-threads` (or the number of CPUs, when the option is absent) reaches
    only the `threads` field of the problem `main` hands to `caobab::solve`; for a valid instance
    outside the class of the known findings F1 and F11 (`noFreeableb`), two finished searches with any two positive worker
    counts and any schedules agree on verdict and score, hence on the exit status. Rooms are allowed. -/
namespace Props
open MainM N2 Eng3

theorem front_threads_irrelevant {o : MainM.Opts} {e : MainM.Env} {pb₁ pb₂ : MainM.Problem} (t₂ : Option Nat) (n₂ : Nat)
    (h₁ : MainM.front o e = .ok pb₁) (h₂ : MainM.front { o with threads := t₂ } { e with cpus := n₂ } = .ok pb₂) :
    pb₁.data = pb₂.data ∧ pb₁.rooms = pb₂.rooms ∧ pb₁.kinds = pb₂.kinds := by
  rw [front_threads t₂ n₂ (front_ok_iff.1 h₁).1 (front_ok_iff.1 h₂).1, h₁] at h₂
  cases h₂
  exact ⟨rfl, rfl, rfl⟩

/-- a refusal does not depend on the worker count either, as long as the other count is not 0 -/
theorem front_refusal_threads_irrelevant {o : MainM.Opts} {e : MainM.Env} {c : Nat} (t₂ : Option Nat) (n₂ : Nat)
    (h₁ : MainM.front o e = .error c) (hz₁ : o.threads ≠ some 0) (hz₂ : t₂ ≠ some 0) :
    MainM.front { o with threads := t₂ } { e with cpus := n₂ } = .error c := by
  rw [front_threads t₂ n₂ hz₁ hz₂, h₁]; rfl

/-- two finished searches on the same instance under the worker counts of two accepted command
    lines agree on verdict and score, and the two runs of the program end with the same status -/
theorem threads_irrelevant_of_front (I : Inst) (R : RoomFns) {o o' : MainM.Opts} {e e' : MainM.Env}
    {pb₁ pb₂ : MainM.Problem} (h₁ : MainM.front o e = .ok pb₁) (h₂ : MainM.front o' e' = .ok pb₂)
    (hcpu₁ : 0 < e.cpus) (hcpu₂ : 0 < e'.cpus)
    (hv : validb I = true) (hnf : noFreeableb I = true) (top : Nat) (htop : I.P * G.W ≤ top) :
    letI := solverOf I R
    ∀ c₁ c₂ : Cfg Node (List (Option Nat)),
      Reach rootNode top pb₁.threads c₁ → AllDone c₁ → Reach rootNode top pb₂.threads c₂ → AllDone c₂ →
      (c₁.best = none ↔ c₂.best = none) ∧ (c₁.best ≠ none → c₁.bestScore = c₂.bestScore) ∧
      (MainM.run o e (fun _ => c₁.best.isSome) true true).exit =
        (MainM.run o' e' (fun _ => c₂.best.isSome) true true).exit := by
  intro c₁ c₂ hr₁ hdn₁ hr₂ hdn₂
  obtain ⟨hv1, hv2⟩ := C03_caobab I R hv hnf top pb₁.threads pb₂.threads (C10_main_threads h₁ hcpu₁)
    (C10_main_threads h₂ hcpu₂) htop c₁ c₂ hr₁ hdn₁ hr₂ hdn₂
  have hs : c₁.best.isSome = c₂.best.isSome := by
    rw [Bool.eq_iff_iff]; simp only [Option.isSome_iff_ne_none, ne_eq, hv1]
  exact ⟨hv1, hv2, by rw [run_exit_ok h₁, run_exit_ok h₂, hs]⟩

/-- C03, the whole program, simple format: two runs of the program on the same command line
    except for `--num-threads` (any two values, or none and any two CPU counts ≥ 1), a valid instance
    outside that class, with or without rooms: whenever both searches have ended with all
    workers returned — whatever the two schedules were — they agree on whether a solution exists and
    on its score, and the program ends with the same exit status -/
theorem main_simple_threads_irrelevant {o : MainM.Opts} {e : MainM.Env} {pb₁ pb₂ : MainM.Problem} (t₂ : Option Nat) (n₂ : Nat)
    (h₁ : MainM.front o e = .ok pb₁) (h₂ : MainM.front { o with threads := t₂ } { e with cpus := n₂ } = .ok pb₂)
    (hc : o.cde = false) (hcpu₁ : 0 < e.cpus) (hcpu₂ : 0 < n₂) :
    ∃ (ps : List SM.PartD) (cs : List SM.CourseD), pb₁.data = .simple ps cs ∧ pb₂.data = .simple ps cs ∧ pb₂.rooms = pb₁.rooms ∧
      ∀ (_ : validb (SM.toInst ps cs pb₁.rooms) = true) (_ : noFreeableb (SM.toInst ps cs pb₁.rooms) = true)
        (R : RoomFns) (top : Nat) (_ : ps.length * G.W ≤ top),
        letI := solverOf (SM.toInst ps cs pb₁.rooms) R
        ∀ c₁ c₂ : Cfg Node (List (Option Nat)),
          Reach rootNode top pb₁.threads c₁ → AllDone c₁ → Reach rootNode top pb₂.threads c₂ → AllDone c₂ →
          (c₁.best = none ↔ c₂.best = none) ∧ (c₁.best ≠ none → c₁.bestScore = c₂.bestScore) ∧
          (MainM.run o e (fun _ => c₁.best.isSome) true true).exit =
            (MainM.run { o with threads := t₂ } { e with cpus := n₂ } (fun _ => c₂.best.isSome) true true).exit := by
  obtain ⟨hdata, hrooms, -⟩ := front_threads_irrelevant t₂ n₂ h₁ h₂
  obtain ⟨j, ps, cs, -, -, hd₁, -⟩ := C15_main_simple h₁ hc
  exact ⟨ps, cs, hd₁, by rw [← hdata]; exact hd₁, hrooms.symm, fun hv hnf R top htop =>
    threads_irrelevant_of_front _ R h₁ h₂ hcpu₁ hcpu₂ hv hnf top (by rw [SM.toInst_P]; exact htop)⟩

/-- C03, the whole program, CdE format: the same for `--cde` (the instance is the one `CD.read`
    built; `validb` adds what the reader does not guarantee by itself — no course twice in a
    choice list, the penalty bound, some participant with choices —, `noFreeableb` keeps outside the class of F1 and F11) -/
theorem main_cde_threads_irrelevant {o : MainM.Opts} {e : MainM.Env} {pb₁ pb₂ : MainM.Problem} (t₂ : Option Nat) (n₂ : Nat)
    (h₁ : MainM.front o e = .ok pb₁) (h₂ : MainM.front { o with threads := t₂ } { e with cpus := n₂ } = .ok pb₂)
    (hc : o.cde = true) (hcpu₁ : 0 < e.cpus) (hcpu₂ : 0 < n₂) :
    ∃ (ps : List CD.Part) (cs : List CD.Course) (amb : CD.Ambience), pb₁.data = .cde ps cs amb ∧ pb₂.data = .cde ps cs amb ∧
      pb₂.rooms = pb₁.rooms ∧
      ∀ (_ : validb (CD.toInstR ps cs pb₁.rooms) = true) (_ : noFreeableb (CD.toInstR ps cs pb₁.rooms) = true)
        (R : RoomFns) (top : Nat) (_ : ps.length * G.W ≤ top),
        letI := solverOf (CD.toInstR ps cs pb₁.rooms) R
        ∀ c₁ c₂ : Cfg Node (List (Option Nat)),
          Reach rootNode top pb₁.threads c₁ → AllDone c₁ → Reach rootNode top pb₂.threads c₂ → AllDone c₂ →
          (c₁.best = none ↔ c₂.best = none) ∧ (c₁.best ≠ none → c₁.bestScore = c₂.bestScore) ∧
          (MainM.run o e (fun _ => c₁.best.isSome) true true).exit =
            (MainM.run { o with threads := t₂ } { e with cpus := n₂ } (fun _ => c₂.best.isSome) true true).exit := by
  obtain ⟨hdata, hrooms, -⟩ := front_threads_irrelevant t₂ n₂ h₁ h₂
  obtain ⟨j, track, ps, cs, amb, -, -, -, hd₁, -⟩ := C15_main_cde h₁ hc
  exact ⟨ps, cs, amb, hd₁, by rw [← hdata]; exact hd₁, hrooms.symm, fun hv hnf R top htop =>
    threads_irrelevant_of_front _ R h₁ h₂ hcpu₁ hcpu₂ hv hnf top (by rw [CD.toInstR_P]; exact htop)⟩

end Props
