import Cdecao.Proofs.NodeEng
import Cdecao.Proofs.MainFront
/-! # C10 (solver half) — valid instances never reach a panic site of the node solver -/
namespace Props
open N2

/-- for a well-formed instance with `num_min ≤ num_max` and a node satisfying the tree invariant,
    `run_bab_node` (including the Hungarian routine inside) reaches none of its panic sites -/
theorem C10_node (I : Inst) (R : RoomFns) (nd : Node) (hI : InstOK I)
    (hmm : ∀ c, c < I.C → (I.course c).numMin ≤ (I.course c).numMax) (hn : NodeOK2 I nd) :
    ∃ r, runNodeS I R nd = .ok r :=
  node_total I R nd hI hmm hn

/-- no node of the search tree (whatever the room list and the float behaviour) makes the solver
    panic: over-subscribed instances, zero-size courses and courses without candidates included -/
theorem C10_tree (I : Inst) (R : RoomFns) (hI : InstOK I)
    (hmm : ∀ c, c < I.C → (I.course c).numMin ≤ (I.course c).numMax) :
    letI := solverOf I R
    ∀ f : Node, Eng3.Desc f rootNode → Eng3.Solver.res f ≠ (Eng3.Res.panic : Eng3.Res (List (Option Nat))) :=
  tree_no_panic I R hI hmm

end Props

namespace Props
open CLI

/-- CLI half (decision logic of main.rs after the solver returned): without a solution the exit
    status is 1 and no file is written; with a solution and no output fault it is 0 and the file,
    if requested, is complete -/
theorem C10_cli (found print : Bool) (f : OutFaults) (hc : f.created = true) (hw : f.written = true) :
    (found = false → (outputStage found print f).exit = 1 ∧ (outputStage found print f).fileComplete = false) ∧
    (found = true → (outputStage found print f).exit = 0 ∧ (outputStage found print f).fileComplete = f.requested) := by
  obtain ⟨req, cr, wr⟩ := f
  simp only at hc hw
  subst hc hw
  rw [outputStage_no_fault]
  cases found <;> simp

end Props
