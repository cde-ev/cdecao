import Cdecao.Model.PanicSites
import Cdecao.Model.PanicConstants
/-! The explicit panic sites of /repo's non-test code, re-extracted from the source on every run,
    are exactly the ones the models account for (Model/PanicSites.lean). Part of the obligations of
    the properties that rest on the absence of a panic (C02–C04, C09, C10, C15, C19; the list is in
    bin/config.py). -/
namespace Props

theorem panic_sites_tie : Const.PANIC_SITES = PanicSites.sites := rfl

end Props
