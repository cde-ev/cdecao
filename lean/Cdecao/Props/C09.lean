import Cdecao.Engine.SolInv
/-! # C09 — the generic branch-and-bound engine returns the best leaf of any bounded tree

`Eng3` models bab.rs as a transition system over micro-steps of the worker loop; node type and
node solver are parameters (class `Solver`: verdict and children of a subproblem). `Bounded root`
is the premise of the property: the score attached to an inner node is at least the score of every
feasible node below it. `top` is `Score::max_value()`. -/
namespace Props
open Eng3
variable {ν σ : Type} [Solver ν σ]

/-- C09: for every thread count `T ≥ 1` and every schedule (`Reach`), once all workers have stopped
    (`AllDone`): every feasible node of the tree scores at most the returned best score and a
    solution is returned; and whatever is returned is the solution of a feasible node of the tree
    with exactly the returned score. In particular nothing is returned iff the tree has no feasible
    node. -/
theorem C09 {root : ν} {top T : Nat} {c : Cfg ν σ} (hT : 0 < T) (hb : Bounded root)
    (htop : ∀ f sc, Desc f root → IsFeas f sc → sc ≤ top)
    (hr : Reach root top T c) (hd : AllDone c) :
    (∀ f sc, Desc f root → IsFeas f sc → c.best ≠ none ∧ sc ≤ c.bestScore) ∧
    (c.best = none ∨
      (∃ f sol, Desc f root ∧ Solver.res f = .feasible sol c.bestScore ∧ c.best = some sol)) :=
  C09_final hT hb htop hr hd

/-- `None` is returned exactly when the tree contains no feasible node -/
theorem C09_none_iff {root : ν} {top T : Nat} {c : Cfg ν σ} (hT : 0 < T) (hb : Bounded root)
    (htop : ∀ f sc, Desc f root → IsFeas f sc → sc ≤ top)
    (hr : Reach root top T c) (hd : AllDone c) :
    c.best = none ↔ ∀ f sc, Desc f root → ¬ IsFeas f sc := by
  obtain ⟨h1, h2⟩ := C09_final hT hb htop hr hd
  constructor
  · intro hn f sc hdf hf
    exact (h1 f sc hdf hf).1 hn
  · intro hno
    rcases h2 with h | ⟨f, sol, hdf, hres, _⟩
    · exact h
    · exact absurd ⟨sol, hres⟩ (hno f _ hdf)

end Props
