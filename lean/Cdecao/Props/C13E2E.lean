import Cdecao.Props.C13
import Cdecao.Props.C13OneWorker
import Cdecao.Proofs.ReaderValid
import Cdecao.Proofs.NodeEng
/-! # C13 end to end: agreeing exports give the same written file (one worker)

Composition of `C13_read` (exports that `Agree` are read to the same problem, or refused alike) and
`C13_one_worker_outcome` (one worker, a fixed behaviour of the priority queue: one outcome). -/
namespace Props
open CD N2 Eng3

/-- what the program writes for an outcome of the search (nothing without a solution) -/
def writtenFor (parts : List CD.Part) (courses : List CD.Course) (best : Option (List (Option Nat))) :
    Option (List (Nat × Nat) × List (Nat × Bool)) :=
  best.map (fun al => (writeRegs parts courses al, writeCourses courses al))

/-- C13, reader ∘ search ∘ writer, one worker. Two exports that agree on the selected track's
    live data are either both refused or read to the same problem; then, for every room list and
    float behaviour, every fixed behaviour `pol` of the priority queue, two complete one-worker runs
    (one per export) end with the same verdict, the same score and the same written registrations
    and courses objects -/
theorem C13_end_to_end (o : Opts) (partId trackId : Nat) (e e' : JS.J) (h : Agree o partId trackId e e')
    (rooms : Option (List Nat)) (R : RoomFns) (top : Nat) :
    CD.read e o = CD.read e' o ∧
    ∀ parts courses amb, CD.read e o = .ok (parts, courses, amb) →
      letI := solverOf (toInstR parts courses rooms) R
      ∀ (pol : List (Cfg Node (List (Option Nat))) → Nat) (es es' : List Ev) (c c' : Cfg Node (List (Option Nat))),
        execP pol [] (init rootNode top 1) es = some c → execP pol [] (init rootNode top 1) es' = some c' →
        AllFinished c → AllFinished c' →
        c.best = c'.best ∧ c.bestScore = c'.bestScore ∧
        writtenFor parts courses c.best = writtenFor parts courses c'.best := by
  have hr := C13_read o partId trackId e e' h
  refine ⟨hr, ?_⟩
  intro parts courses amb _
  let S := solverOf (toInstR parts courses rooms) R
  intro pol es es' c c' h1 h2 f1 f2
  obtain ⟨hc, hb, hs⟩ := C13_one_worker_outcome rootNode top pol es es' c c' h1 h2 f1 f2
  exact ⟨hb, hs, by rw [hb]⟩

end Props
