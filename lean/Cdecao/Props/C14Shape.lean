import Cdecao.Proofs.SimpleShape
import Cdecao.Props.C14
/-! C14 against the DOCUMENT. `C14.lean` speaks about the instance `I`; here the chain is closed back
    to the JSON document: the reader delivers one problem entry per document entry, in document
    order, every field the document's member; the listing is one block per course; the output array
    has one entry per entry of the document's `participants` array. -/
namespace Props
open N2 LM JS

theorem C14_mapM'_shape {α β : Type} (f : α → SM.M β) (l : List α) (r : List β)
    (h : SM.mapM' f l = .ok r) :
    r.length = l.length ∧ ∀ i (hi : i < l.length) (hi' : i < r.length), f l[i] = .ok r[i] :=
  SM.mapM'_ok_iff.1 h

theorem C14_mapM'_complete {α β : Type} (f : α → SM.M β) (l : List α) (r : List β)
    (hl : r.length = l.length)
    (hi : ∀ i (hi : i < l.length) (hi' : i < r.length), f l[i] = .ok r[i]) :
    SM.mapM' f l = .ok r :=
  SM.mapM'_ok_iff.2 ⟨hl, hi⟩

theorem C14_mapM'_all_or_nothing {α β : Type} (f : α → SM.M β) (l : List α) (x : α) (e : String)
    (hx : x ∈ l) (he : f x = .error e) : ∃ e', SM.mapM' f l = .error e' := by
  cases h : SM.mapM' f l with
  | error e' => exact ⟨e', rfl⟩
  | ok r =>
    obtain ⟨_, -, hy⟩ := List.mem_map.1 (SM.mapM'_eq_ok_iff.1 h ▸ List.mem_map_of_mem hx)
    rw [he] at hy; cases hy

theorem C14_read_shape (j : J) (ps : List SM.PartD) (cs : List SM.CourseD)
    (h : SM.read j = .ok (ps, cs)) :
    ∃ pv cv : List J,
      j.get "participants" = some (.arr pv) ∧ j.get "courses" = some (.arr cv) ∧
      ps.length = pv.length ∧ cs.length = cv.length ∧
      (∀ i (hi : i < pv.length) (hi' : i < ps.length), SM.partOf pv[i] = .ok ps[i]) ∧
      (∀ i (hi : i < cv.length) (hi' : i < cs.length), SM.courseOf cv[i] = .ok cs[i]) := by
  obtain ⟨pv, cv, hpj, hcj, hp, hc⟩ := SM.read_ok_iff.1 h
  obtain ⟨hpl, hpi⟩ := SM.mapM'_ok_iff.1 hp
  obtain ⟨hcl, hci⟩ := SM.mapM'_ok_iff.1 hc
  exact ⟨pv, cv, hpj, hcj, hpl, hcl, hpi, hci⟩

/-- conversely: whenever both arrays parse entry by entry, `read` delivers exactly these entries -/
theorem C14_read_complete (j : J) (pv cv : List J) (ps : List SM.PartD) (cs : List SM.CourseD)
    (hp : j.get "participants" = some (.arr pv)) (hc : j.get "courses" = some (.arr cv))
    (hpl : ps.length = pv.length) (hcl : cs.length = cv.length)
    (hpi : ∀ i (hi : i < pv.length) (hi' : i < ps.length), SM.partOf pv[i] = .ok ps[i])
    (hci : ∀ i (hi : i < cv.length) (hi' : i < cs.length), SM.courseOf cv[i] = .ok cs[i]) :
    SM.read j = .ok (ps, cs) :=
  SM.read_ok_iff.2 ⟨pv, cv, hp, hc, SM.mapM'_ok_iff.2 ⟨hpl, hpi⟩, SM.mapM'_ok_iff.2 ⟨hcl, hci⟩⟩

/-- one participant entry that does not parse refuses the whole document (none is dropped) -/
theorem C14_read_all_or_nothing (j : J) (pv : List J) (x : J) (e : String)
    (hp : j.get "participants" = some (.arr pv)) (hx : x ∈ pv) (he : SM.partOf x = .error e) :
    ∃ e', SM.read j = .error e' := by
  cases hr : SM.read j with
  | error e' => exact ⟨e', rfl⟩
  | ok r =>
    obtain ⟨pv', _, hp', _, hps, _⟩ := SM.read_ok_iff.1 hr
    cases hp.symm.trans hp'
    obtain ⟨e', he'⟩ := C14_mapM'_all_or_nothing SM.partOf pv x e hx he
    rw [he'] at hps; cases hps

theorem C14_choice_fields (j : J) (ch : Choice) (h : SM.choiceOf j = .ok ch) :
    ∃ kv, j = .obj kv ∧
      J.lookup "course" kv = some (.num (.pos ch.course)) ∧ ch.course ≤ J.U64_MAX ∧
      J.lookup "penalty" kv = some (.num (.pos ch.penalty)) ∧ ch.penalty ≤ SM.U32_MAX := by
  unfold SM.choiceOf at h
  repeat' split at h
  all_goals cases h
  rename_i kv _ c hc _ course hcourse _ p hp _ penalty hpen
  obtain ⟨rfl, h1⟩ := SM.asUsize_ok hcourse
  obtain ⟨rfl, h2⟩ := SM.asU32_ok hpen
  exact ⟨kv, rfl, SM.field_ok hc, h1, SM.field_ok hp, h2⟩

theorem C14_part_obj (j : J) (p : SM.PartD) (h : SM.partOf j = .ok p) : ∃ kv, j = .obj kv := by
  unfold SM.partOf at h
  split at h
  · exact ⟨_, rfl⟩
  · cases h

/-- name = the `name` member; choices = the `choices` array, entry by entry, in order -/
theorem C14_part_fields (kv : List (String × J)) (p : SM.PartD) (h : SM.partOf (.obj kv) = .ok p) :
    J.lookup "name" kv = some (.str p.name) ∧
    ∃ cl, J.lookup "choices" kv = some (.arr cl) ∧ p.choices.length = cl.length ∧
      ∀ i (hi : i < cl.length) (hi' : i < p.choices.length), SM.choiceOf cl[i] = .ok p.choices[i] := by
  simp only [SM.partOf] at h
  repeat' split at h
  all_goals cases h
  rename_i _ n hn _ name hname _ c hc _ choices hch
  obtain ⟨cl, rfl, hm⟩ := SM.asVec_ok hch
  rw [SM.asStr_some hname] at hn
  exact ⟨SM.field_ok hn, cl, SM.field_ok hc, SM.mapM'_ok_iff.1 hm⟩

theorem C14_course_obj (j : J) (c : SM.CourseD) (h : SM.courseOf j = .ok c) : ∃ kv, j = .obj kv := by
  unfold SM.courseOf at h
  split at h
  · exact ⟨_, rfl⟩
  · cases h

/-- name, num_max, num_min: the members; instructors: the `instructors` array (`l`, entry by
    entry) de-duplicated; room_factor / room_offset / fixed_course / hidden_participant_names: the
    member, or the default (`none`, `none`, `false`, `[]`) when the member is absent -/
theorem C14_course_fields (kv : List (String × J)) (c : SM.CourseD)
    (h : SM.courseOf (.obj kv) = .ok c) :
    J.lookup "name" kv = some (.str c.name) ∧
    (J.lookup "num_max" kv = some (.num (.pos c.numMax)) ∧ c.numMax ≤ J.U64_MAX) ∧
    (J.lookup "num_min" kv = some (.num (.pos c.numMin)) ∧ c.numMin ≤ J.U64_MAX) ∧
    (∃ l : List Nat, J.lookup "instructors" kv = some (.arr (l.map (fun n => .num (.pos n)))) ∧
        (∀ n ∈ l, n ≤ J.U64_MAX) ∧ c.instructors = SM.dedup [] l) ∧
    ((J.lookup "room_factor" kv = none ∧ c.factor = none) ∨
      ∃ n, J.lookup "room_factor" kv = some (.num n) ∧ c.factor = some n) ∧
    ((J.lookup "room_offset" kv = none ∧ c.offset = none) ∨
      ∃ n, J.lookup "room_offset" kv = some (.num n) ∧ c.offset = some n) ∧
    ((J.lookup "fixed_course" kv = none ∧ c.fixed = false) ∨
      J.lookup "fixed_course" kv = some (.bool c.fixed)) ∧
    ((J.lookup "hidden_participant_names" kv = none ∧ c.hidden = []) ∨
      J.lookup "hidden_participant_names" kv = some (.arr (c.hidden.map .str))) := by
  simp only [SM.courseOf] at h
  repeat' split at h
  all_goals cases h
  rename_i _ n hn _ name hname _ numMax hmax _ numMin hmin _ instr hinstr _ factor hfac _ offset hoff
    _ fixed hfix _ hidden hhid
  rw [SM.asStr_some hname] at hn
  refine ⟨SM.field_ok hn, SM.field_usize_ok hmax, SM.field_usize_ok hmin, ?_, SM.optF32_ok hfac,
    SM.optF32_ok hoff, ?_, ?_⟩
  · obtain ⟨v, hv, h2⟩ := SM.field_bind_ok hinstr
    refine ⟨instr, ?_, fun n hn' => ?_, rfl⟩
    · rw [hv, SM.asVec_inv (fun n => .num (.pos n)) (fun x y hxy => (SM.asUsize_ok hxy).1) h2]
    · obtain ⟨il, rfl, hm⟩ := SM.asVec_ok h2
      obtain ⟨x, -, hx⟩ := List.mem_map.1 (SM.mapM'_eq_ok_iff.1 hm ▸ List.mem_map_of_mem hn')
      exact (SM.asUsize_ok hx).2
  · rcases SM.optField_ok hfix with ⟨h1, h2⟩ | ⟨v, hv, h2⟩
    · exact Or.inl ⟨h1, h2⟩
    · right
      split at h2
      · rename_i b hb; cases h2; rw [hv, SM.asBool_some hb]
      · cases h2
  · rcases SM.optField_ok hhid with ⟨h1, h2⟩ | ⟨v, hv, h2⟩
    · exact Or.inl ⟨h1, h2⟩
    · right
      rw [hv, SM.asVec_inv J.str (fun x y hxy => by
        split at hxy
        · rename_i s hs; cases hxy; exact SM.asStr_some hs
        · cases hxy) h2]

theorem C14_dedup_mem (l seen : List Nat) (x : Nat) : x ∈ SM.dedup seen l ↔ x ∈ l ∧ x ∉ seen := by
  simp [SM.dedup_eq_eraseDups, List.mem_eraseDups]

theorem C14_dedup_mem_nil (l : List Nat) (x : Nat) : x ∈ SM.dedup [] l ↔ x ∈ l := by
  simp [C14_dedup_mem]

theorem C14_dedup_nodup (l seen : List Nat) : (SM.dedup seen l).Nodup := by
  induction l generalizing seen with
  | nil => simp [SM.dedup]
  | cons y ys ih =>
    simp only [SM.dedup]
    split
    · exact ih seen
    · exact List.nodup_cons.2
        ⟨fun h => ((C14_dedup_mem ys (y :: seen) y).1 h).2 List.mem_cons_self, ih (y :: seen)⟩

theorem C14_dedup_sublist (l seen : List Nat) : List.Sublist (SM.dedup seen l) l := by
  induction l generalizing seen with
  | nil => simp [SM.dedup]
  | cons y ys ih =>
    simp only [SM.dedup]
    split
    · exact (ih seen).cons _
    · exact (ih (y :: seen)).cons_cons _

/-- exactly: each value stays at its first occurrence (`List.eraseDups` of core) -/
theorem C14_dedup_first_occurrences (l : List Nat) : SM.dedup [] l = l.eraseDups := by
  simp [SM.dedup_eq_eraseDups]

/-- the printed text is literally the concatenation of the blocks' texts, in course order -/
theorem C14_render_blocks (I : Inst) (a : Nat → Option Nat) (cnames pnames : List String)
    (hidden : List (List String)) (rooms : Option (List String)) :
    render I a cnames pnames hidden rooms =
      String.join ((LM'.blocks I a cnames hidden rooms).map
        (LM'.renderBlock (fun p => pnames.getD p ""))) := by
  unfold render LM'.blocks
  rw [List.map_map]
  rfl

theorem C14_blocks_length (I : Inst) (a : Nat → Option Nat) (cnames : List String)
    (hidden : List (List String)) (rooms : Option (List String)) :
    (LM'.blocks I a cnames hidden rooms).length = I.C := by
  simp [LM'.blocks]

/-- the `c`-th block is course `c`'s: its header name; its count = (number of participants the
    array puts into `c`) + (number of hidden names); its lines = exactly the participants the array
    puts into `c`, in participant order, without repetition, flagged exactly when instructor of
    `c`; its hidden names = the course's, in order -/
theorem C14_block (I : Inst) (a : Nat → Option Nat) (cnames : List String)
    (hidden : List (List String)) (rooms : Option (List String)) (c : Nat)
    (hc : c < (LM'.blocks I a cnames hidden rooms).length) :
    let b := (LM'.blocks I a cnames hidden rooms)[c]
    b.name = cnames.getD c "" ∧
    b.count = (List.range I.P).countP (fun p => a p == some c) + (hidden.getD c []).length ∧
    b.rooms = rooms.map (fun r => r.getD c "") ∧
    b.entries = entries I a c ∧
    (∀ p f, (p, f) ∈ b.entries ↔
      (p < I.P ∧ a p = some c ∧ f = (I.course c).instructors.contains p)) ∧
    (b.entries.map (·.1)).Pairwise (· < ·) ∧
    b.hidden = hidden.getD c [] := by
  intro b
  have hb : b = LM'.block I a cnames hidden rooms c := LM'.blocks_getElem hc
  rw [hb]
  refine ⟨rfl, ?_, rfl, rfl, fun p f => C14_entries I a c p f, C14_entries_sorted I a c, rfl⟩
  show (entries I a c).length + _ = _
  rw [LM'.entries_length]

/-- the same for the simple format, tied to the parsed document entries: with the instance, course
    names and hidden names taken from `read`'s result, block `c` carries course `c`'s name, its
    hidden names, the count, and flags exactly the participants in the course's (de-duplicated)
    instructor list -/
theorem C14_simple_listing (ps : List SM.PartD) (cs : List SM.CourseD) (rooms : Option (List Nat))
    (a : Nat → Option Nat) (rnames : Option (List String)) :
    let I := SM.toInst ps cs rooms
    let bl := LM'.blocks I a (cs.map (·.name)) (cs.map (·.hidden)) rnames
    bl.length = cs.length ∧
    ∀ c (hc : c < cs.length) (hc' : c < bl.length),
      bl[c].name = cs[c].name ∧
      bl[c].hidden = cs[c].hidden ∧
      bl[c].count = (List.range ps.length).countP (fun p => a p == some c) + cs[c].hidden.length ∧
      (∀ p f, (p, f) ∈ bl[c].entries ↔
        (p < ps.length ∧ a p = some c ∧ f = cs[c].instructors.contains p)) ∧
      (bl[c].entries.map (·.1)).Pairwise (· < ·) := by
  intro I bl
  have hC : I.C = cs.length := SM.toInst_C ps cs rooms
  have hP : I.P = ps.length := SM.toInst_P ps cs rooms
  refine ⟨by rw [C14_blocks_length, hC], fun c hc hc' => ?_⟩
  have hn : (cs.map (·.name)).getD c "" = cs[c].name := by simp [List.getD, hc]
  have hh : (cs.map (·.hidden)).getD c [] = cs[c].hidden := by simp [List.getD, hc]
  have hi : (I.course c).instructors = cs[c].instructors := by
    simp [I, SM.toInst, Inst.course, List.getD, hc]
  obtain ⟨h1, h2, -, -, h5, h6, h7⟩ := C14_block I a _ _ rnames c hc'
  rw [hP, hh] at h2
  exact ⟨h1.trans hn, h7.trans hh, h2, fun p f => by rw [h5 p f, hP, hi], h6⟩

/-- for a document the reader accepts and that yields a valid instance: in every reachable engine
    configuration (any thread count, any schedule) the incumbent — what the simple-format writer
    emits as `assignment` — has exactly one entry per entry of the DOCUMENT's `participants` array,
    each `null` or an index below the length of the DOCUMENT's `courses` array -/
theorem C14_simple_end_to_end (j : J) (ps : List SM.PartD) (cs : List SM.CourseD)
    (rooms : Option (List Nat)) (R : RoomFns)
    (hread : SM.read j = .ok (ps, cs))
    (hv : validb (SM.toInst ps cs rooms) = true) (top T : Nat) :
    letI := solverOf (SM.toInst ps cs rooms) R
    ∀ c : Eng3.Cfg Node (List (Option Nat)),
      Eng3.Reach rootNode top T c → ∀ al, c.best = some al →
      ∃ pv cv : List J,
        j.get "participants" = some (.arr pv) ∧ j.get "courses" = some (.arr cv) ∧
        al.length = pv.length ∧
        (∀ x ∈ al, x = none ∨ ∃ k, x = some k ∧ k < cv.length) ∧
        (∀ i (hi : i < pv.length), ∃ p, SM.partOf pv[i] = .ok p) ∧
        (∀ k (hk : k < cv.length), ∃ co, SM.courseOf cv[k] = .ok co) := by
  intro c hr al hal
  obtain ⟨pv, cv, hp, hc, hpl, hcl, hpi, hci⟩ := C14_read_shape j ps cs hread
  obtain ⟨h1, h2⟩ := C14_array (SM.toInst ps cs rooms) R hv top T c hr al hal
  rw [SM.toInst_P, hpl] at h1
  refine ⟨pv, cv, hp, hc, h1, fun x hx => ?_, fun i hi => ⟨_, hpi i hi (hpl ▸ hi)⟩,
    fun k hk => ⟨_, hci k hk (hcl ▸ hk)⟩⟩
  cases x with
  | none => exact Or.inl rfl
  | some k =>
    refine Or.inr ⟨k, rfl, ?_⟩
    have := h2 _ hx k rfl
    rwa [SM.toInst_C, hcl] at this

/-- a small document: two participants, two courses (one with a repeated instructor, hidden names
    and the optional members) -/
def C14_doc : J :=
  .obj [("courses", .arr [
          .obj [("instructors", .arr [.num (.pos 0), .num (.pos 0)]), ("name", .str "K1"),
                ("num_max", .num (.pos 2)), ("num_min", .num (.pos 1))],
          .obj [("fixed_course", .bool true), ("hidden_participant_names", .arr [.str "X", .str "Y"]),
                ("instructors", .arr []), ("name", .str "K2"),
                ("num_max", .num (.pos 3)), ("num_min", .num (.pos 0))]]),
        ("participants", .arr [
          .obj [("choices", .arr []), ("name", .str "A")],
          .obj [("choices", .arr [.obj [("course", .num (.pos 1)), ("penalty", .num (.pos 5))],
                                  .obj [("course", .num (.pos 0)), ("penalty", .num (.pos 0))]]),
                ("name", .str "B")]])]

def C14_doc_ps : List SM.PartD := [⟨"A", []⟩, ⟨"B", [⟨1, 5⟩, ⟨0, 0⟩]⟩]
def C14_doc_cs : List SM.CourseD :=
  [⟨"K1", 2, 1, [0], none, none, false, []⟩, ⟨"K2", 3, 0, [], none, none, true, ["X", "Y"]⟩]

theorem C14_doc_read : SM.read C14_doc = .ok (C14_doc_ps, C14_doc_cs) := by rfl

example : SM.read C14_doc = .ok (C14_doc_ps, C14_doc_cs) := C14_doc_read
theorem C14_doc_valid : validb (SM.toInst C14_doc_ps C14_doc_cs (some [3, 2])) = true := by decide +kernel
example : validb (SM.toInst C14_doc_ps C14_doc_cs (some [3, 2])) = true := C14_doc_valid
example : SM.dedup [] [3, 1, 3, 2, 1] = [3, 1, 2] := by decide +kernel
/-- a bad entry refuses the document -/
example : ∃ e, SM.read (.obj [("courses", .arr []), ("participants", .arr [.obj [("name", .str "A")]])])
    = .error e := ⟨_, rfl⟩
/-- the blocks of the listing for the assignment A→K1, B→K2 -/
example :
    (LM'.blocks (SM.toInst C14_doc_ps C14_doc_cs none) (fun p => [some 0, some 1].getD p none)
        (C14_doc_cs.map (·.name)) (C14_doc_cs.map (·.hidden)) none).map
      (fun b => (b.name, b.count, b.entries, b.hidden)) =
    [("K1", 1, [(0, true)], []), ("K2", 3, [(1, false)], ["X", "Y"])] := by decide +kernel

/-- the end-to-end theorem instantiated on the small document: whatever the engine holds as
    incumbent has two entries, each `null`, `0` or `1` -/
example (R : RoomFns) (top T : Nat) :
    letI := solverOf (SM.toInst C14_doc_ps C14_doc_cs (some [3, 2])) R
    ∀ c : Eng3.Cfg Node (List (Option Nat)),
      Eng3.Reach rootNode top T c → ∀ al, c.best = some al →
      al.length = 2 ∧ ∀ x ∈ al, x = none ∨ ∃ k, x = some k ∧ k < 2 := by
  intro c hr al hal
  obtain ⟨pv, cv, hp, hc, h1, h2, _, _⟩ :=
    C14_simple_end_to_end C14_doc C14_doc_ps C14_doc_cs (some [3, 2]) R C14_doc_read C14_doc_valid top T c hr al hal
  -- both arrays of the document have two entries
  obtain ⟨x, y, ep⟩ : ∃ x y, C14_doc.get "participants" = some (.arr [x, y]) := ⟨_, _, rfl⟩
  obtain ⟨x', y', ec⟩ : ∃ x y, C14_doc.get "courses" = some (.arr [x, y]) := ⟨_, _, rfl⟩
  cases ep.symm.trans hp
  cases ec.symm.trans hc
  exact ⟨h1, h2⟩

#print axioms C14_mapM'_shape
#print axioms C14_mapM'_complete
#print axioms C14_mapM'_all_or_nothing
#print axioms C14_read_shape
#print axioms C14_read_complete
#print axioms C14_read_all_or_nothing
#print axioms C14_choice_fields
#print axioms C14_part_obj
#print axioms C14_part_fields
#print axioms C14_course_obj
#print axioms C14_course_fields
#print axioms C14_dedup_nodup
#print axioms C14_dedup_mem
#print axioms C14_dedup_mem_nil
#print axioms C14_dedup_sublist
#print axioms C14_dedup_first_occurrences
#print axioms C14_render_blocks
#print axioms C14_blocks_length
#print axioms C14_block
#print axioms C14_simple_listing
#print axioms C14_simple_end_to_end

end Props
