import Cdecao.Proofs.NodeEng
import Cdecao.Proofs.NodeDecide
import Cdecao.Spec.Valid
/-! # C03, known finding F11: in the class of F1 the search tree need not be `Bounded`

Witness (no rooms): C0(min 3, max 4, instructor P1), C1(min 2, max 5), C2(min 2, max 4);
P0: C1, C0, C2(pen 4); P1: C2, C1(pen 1); P2: C1; P3: C2, C1(pen 1), C0. P1 instructs C0 AND has own
choices. The node "C2 enforced" is infeasible with score 199996, but its child "C0 cancelled" —
which frees P1 — is FEASIBLE with score 200000: a child scores above its parent's bound, which is
what is proved here (`C03_F11_not_bounded`). The consequence is not a theorem about the model but is
replayed on the real code on every run of the C03 check
(corpus/C03/F11_minimal_schedule_dependent_score.json): a worker that pops this child after another
has stored the solution 199998 (found below "C2 cancelled") discards it by bounding, so the reported
score depends on the schedule. The node results are evaluated by the kernel, Hungarian routine
included. -/
namespace Props
open N2

def F11 : Inst :=
  { cs := [⟨3, 4, false, [1]⟩, ⟨2, 5, false, []⟩, ⟨2, 4, false, []⟩]
    ps := [⟨[⟨1, 0⟩, ⟨0, 0⟩, ⟨2, 4⟩]⟩, ⟨[⟨2, 0⟩, ⟨1, 1⟩]⟩, ⟨[⟨1, 0⟩]⟩, ⟨[⟨2, 0⟩, ⟨1, 1⟩, ⟨0, 0⟩]⟩]
    rooms := none }

theorem F11_root (R : RoomFns) :
    runNodeS F11 R rootNode = .ok (.infeasible [⟨[], [2], []⟩, ⟨[2], [], []⟩] 200000) :=
  runNodeS_of_noRooms rfl R (by decide +kernel)
theorem F11_enforce2 (R : RoomFns) :
    runNodeS F11 R ⟨[], [2], []⟩ = .ok (.infeasible [⟨[], [2, 0], []⟩, ⟨[0], [2], []⟩] 199996) :=
  runNodeS_of_noRooms rfl R (by decide +kernel)
theorem F11_enforce2_cancel0 (R : RoomFns) :
    runNodeS F11 R ⟨[0], [2], []⟩ = .ok (.feasible [some 1, some 2, some 1, some 2] 200000) :=
  runNodeS_of_noRooms rfl R (by decide +kernel)

/-- the witness is a valid instance, in the class of the known findings (`noFreeableb = false`) -/
example : validb F11 = true ∧ noFreeableb F11 = false := by decide +kernel

/-- The search tree of the witness is not `Bounded`: the premise of the schedule-independence
    theorem `C03` fails for the code's own node solver on a valid instance -/
theorem C03_F11_not_bounded (R : RoomFns) :
    letI := solverOf F11 R
    ¬ Eng3.Bounded rootNode := by
  let S := solverOf F11 R
  intro hb
  -- the node "C2 enforced" is a child of the root; its child "C0 cancelled" is feasible and scores more
  have hd : Eng3.Desc (⟨[], [2], []⟩ : Node) rootNode :=
    .step (by rw [pushed_of_infeasible (F11_root R)]; exact List.mem_cons_self ..) (.refl _)
  have h1 := solverOf_infeasible (F11_enforce2 R)
  have := hb _ hd _ h1.1 ⟨[0], [2], []⟩ (by rw [h1.2]; exact List.mem_cons_of_mem _ (List.mem_cons_self ..))
    _ _ (.refl _) ⟨_, solverOf_res_eq_feasible_iff.2 (F11_enforce2_cancel0 R)⟩
  omega

end Props
