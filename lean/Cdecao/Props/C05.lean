import Cdecao.Model.Cdedb
import Cdecao.Proofs.ImportConsistent
/-! # C05 — applying the generated import file yields a consistent course track (writer side)

`CD.writeRegs` / `CD.writeCourses` model the registrations / courses objects of io::cdedb::write.
What the file names is exactly determined by the problem that was read and the assignment:
only registrations and courses of the problem (hence of the export, by C12), the assigned course's
database id, and a segment flag that is true iff somebody is assigned or the course is fixed. -/
namespace Props
open CD

/-- every registration entry of the file is a participant of the problem with the database id of
    the course the assignment gives it -/
theorem C05_regs (parts : List Part) (courses : List Course) (a : List (Option Nat)) (rid cid : Nat)
    (h : (rid, cid) ∈ writeRegs parts courses a) :
    ∃ p x c, (p, x) ∈ parts.zip a ∧ x = some c ∧ rid = p.dbid ∧ cid = (courses.getD c default).dbid := by
  obtain ⟨i, pp, c, h1, h2, rfl, rfl⟩ := mem_writeRegs.1 h
  exact ⟨pp, some c, c, List.mem_iff_getElem?.2 ⟨i, List.getElem?_zip_eq_some.2 ⟨h1, h2⟩⟩, rfl, rfl, rfl⟩

/-- a course is written as taking place iff somebody is assigned to it or it is fixed -/
theorem C05_courses (courses : List Course) (a : List (Option Nat)) (cid : Nat) (b : Bool)
    (h : (cid, b) ∈ writeCourses courses a) :
    ∃ c i, (c, i) ∈ courses.zipIdx ∧ cid = c.dbid ∧ (b = true ↔ (0 < a.countP (· == some i) ∨ c.fixed = true)) := by
  obtain ⟨i, c, hc, rfl, rfl⟩ := mem_writeCourses.1 h
  exact ⟨c, i, List.mem_zipIdx_iff_getElem?.2 hc, rfl, by simp⟩

/-- nobody is assigned to a course the file marks as cancelled -/
theorem C05_no_cancelled_assignment (courses : List Course) (a : List (Option Nat)) (c : Course) (i : Nat)
    (hm : (c, i) ∈ courses.zipIdx) (hb : (c.dbid, false) ∈ writeCourses courses a)
    (hnd : ∀ c' i', (c', i') ∈ courses.zipIdx → c'.dbid = c.dbid → i' = i) :
    ∀ x ∈ a, x ≠ some i := by
  obtain ⟨c', i', hm', hid, hiff⟩ := C05_courses courses a c.dbid false hb
  obtain rfl : i' = i := hnd c' i' hm' hid.symm
  intro x hx heq
  cases hiff.2 (Or.inl (List.countP_pos_iff.2 ⟨x, hx, by simp [heq]⟩))

/-! The statements below speak about the JSON value of the export through `Selected`, `RegNamed`,
`CourseNamed`, `ChoseOrInstructs`, `courseMinSize` / `courseMaxSize`, `ignoredCount` and `NodupKeys`,
defined and explained in Cdecao/Proofs/ImportConsistent.lean. `NodupKeys` (distinct course keys) is a
hypothesis; it is needed for (e) and for counting the ignored people of (d) under the course's key:
`CD.Link.regs_entry` / `CD.Link.courses_entry` are (a)–(d) without it. -/

open N2.G in
/-- C05, assembled. For the problem read from an export and any assignment satisfying the hard
    constraints, the registrations / courses objects of the import file are consistent with that
    export:
    * shape: `(rid, cid)` is an entry exactly if some participant `p` with registration id `rid`
      is assigned a course with id `cid`;
    * (a) every entry names a registration of the export that is a participant of the selected part
      (and is not an ignored one) and a course of the export offered in the selected track (not
      cancelled, with `--ignore-cancelled`);
    * (b) that course is written as taking place;
    * (c) the registration chose the course or instructs it, by the export;
    * (d) per course entry: it names a course of the export offered in the track; it is written as
      taking place iff it takes place in the sense of `HardOK`; then the export's `min_size` is met
      counting the new attendees and the ignored pre-assigned ones; and there are no new attendees
      or the export's `max_size` is respected counting both;
    * (e) nobody is newly assigned to a course written as cancelled. -/
theorem C05_consistent (data : JS.J) (o : Opts) (parts : List Part) (courses : List Course)
    (amb : Ambience) (al : List (Option Nat))
    (hread : CD.read data o = .ok (parts, courses, amb))
    (hlen : al.length = parts.length)
    (hok : HardOK (toInst parts courses) (fun p => al.getD p none))
    (hkeys : NodupKeys data) :
    ∃ partId trackId cdata rdata, Selected data o amb partId trackId cdata rdata ∧
      -- shape of the registration entries
      (∀ rid cid, (rid, cid) ∈ writeRegs parts courses al ↔
        ∃ (p : Nat) (pp : Part) (c : Nat), parts[p]? = some pp ∧ al[p]? = some (some c) ∧
          rid = pp.dbid ∧ cid = (courses.getD c default).dbid) ∧
      -- (a), (b), (c)
      (∀ rid cid, (rid, cid) ∈ writeRegs parts courses al →
        ∃ rkv ∈ rdata, ∃ ckv ∈ cdata,
          RegNamed o partId trackId cdata rkv rid ∧ CourseNamed o trackId ckv cid ∧
          (cid, true) ∈ writeCourses courses al ∧ ChoseOrInstructs trackId rkv.2 cid) ∧
      -- (d)
      (∀ c cid b, (writeCourses courses al)[c]? = some (cid, b) →
        ∃ ckv ∈ cdata, CourseNamed o trackId ckv cid ∧
          (b = true ↔ takesPlace (toInst parts courses) (fun p => al.getD p none) c) ∧
          (b = true → courseMinSize ckv.2 ≤
            attendees (toInst parts courses) (fun p => al.getD p none) c +
              ignoredCount o partId trackId rdata cid false) ∧
          (attendees (toInst parts courses) (fun p => al.getD p none) c = 0 ∨
            attendees (toInst parts courses) (fun p => al.getD p none) c +
              ignoredCount o partId trackId rdata cid false ≤ courseMaxSize ckv.2)) ∧
      -- (e)
      (∀ cid, (cid, false) ∈ writeCourses courses al →
        ∀ rid, (rid, cid) ∉ writeRegs parts courses al) := by
  obtain ⟨partId, trackId, cdata, rdata, co, L⟩ := read_link hread
  have hn : (courseIds cdata).Nodup := hkeys cdata L.hcdata
  -- (e): by (b) the course of a registration entry is written with flag `true`, and with distinct
  -- keys an id is written once
  refine ⟨partId, trackId, cdata, rdata, L.selected, fun _ _ => mem_writeRegs,
    fun _ _ h => L.regs_entry hok h, ?_,
    fun _ h rid hr => absurd (L.written_once hn h (mem_writeCourses_of_mem_writeRegs hok hr)) (by decide)⟩
  intro c cid b h
  obtain ⟨ckv, hm, hnamed, h1, h2, h3, _⟩ := L.courses_entry hlen hok h
  obtain ⟨cc, hcc, rfl, _⟩ := writeCourses_getElem?_eq_some.1 h
  rw [L.invCount_eq hn hcc false] at h2 h3
  exact ⟨ckv, hm, hnamed, h1, h2, h3⟩

open N2.G in
/-- C05 without key distinctness. Clauses (a)–(d) hold for every export; the ignored
    pre-assigned attendees of (d) are then counted through the reader's course table `co`
    (`invCount … c false` = the number of registrations `readRegs` ignored with `assigned = some c`
    that do not instruct `c`, see `readRegs_invisible`). -/
theorem C05_consistent_anyKeys (data : JS.J) (o : Opts) (parts : List Part) (courses : List Course)
    (amb : Ambience) (al : List (Option Nat))
    (hread : CD.read data o = .ok (parts, courses, amb))
    (hlen : al.length = parts.length)
    (hok : HardOK (toInst parts courses) (fun p => al.getD p none)) :
    ∃ partId trackId cdata rdata co, Selected data o amb partId trackId cdata rdata ∧
      readCourses cdata trackId o = .ok co ∧
      (∀ rid cid, (rid, cid) ∈ writeRegs parts courses al →
        ∃ rkv ∈ rdata, ∃ ckv ∈ cdata,
          RegNamed o partId trackId cdata rkv rid ∧ CourseNamed o trackId ckv cid ∧
          (cid, true) ∈ writeCourses courses al ∧ ChoseOrInstructs trackId rkv.2 cid) ∧
      (∀ c cid b, (writeCourses courses al)[c]? = some (cid, b) →
        ∃ ckv ∈ cdata, CourseNamed o trackId ckv cid ∧
          (b = true ↔ takesPlace (toInst parts courses) (fun p => al.getD p none) c) ∧
          (b = true → courseMinSize ckv.2 ≤
            attendees (toInst parts courses) (fun p => al.getD p none) c +
              invCount o partId trackId co rdata c false) ∧
          (attendees (toInst parts courses) (fun p => al.getD p none) c = 0 ∨
            attendees (toInst parts courses) (fun p => al.getD p none) c +
              invCount o partId trackId co rdata c false ≤ courseMaxSize ckv.2)) := by
  obtain ⟨partId, trackId, cdata, rdata, co, L⟩ := read_link hread
  refine ⟨partId, trackId, cdata, rdata, co, L.selected, L.hco,
    fun _ _ h => L.regs_entry hok h, ?_⟩
  intro c cid b h
  obtain ⟨ckv, hm, hnamed, h1, h2, h3, _⟩ := L.courses_entry hlen hok h
  exact ⟨ckv, hm, hnamed, h1, h2, h3⟩

/-- the hypotheses hold on the export `CD.Ex` (Proofs/ImportConsistent.lean) -/
example := C05_consistent Ex.doc Ex.opts Ex.parts Ex.courses Ex.amb Ex.al Ex.read_eq rfl Ex.hardOK
  Ex.nodupKeys

end Props

#print axioms Props.C05_consistent
#print axioms Props.C05_consistent_anyKeys
