import Cdecao.Model.Simple
import Cdecao.Model.RoomsInput
import Cdecao.Proofs.SimpleShape
import Cdecao.Proofs.RoomsInputShape
/-! # C15 — malformed input is refused with an error, never with a panic (simple format, from the
    JSON value on)

`SM.accepts` models `io::simple::read` followed by the validation main.rs performs before calling
the solver. Whatever is accepted has indices in range (`precomputeOk`), `num_min ≤ num_max` and
at least one participant (`C15_accept_sound`); that nobody instructs two courses, the other half of
`N2.InstOK` on which C10 rests, is not checked for this format and stays a hypothesis (`validb` in
Props/MainE2E.lean). The bytes → JSON value step is serde_json's and is only enumerated (raw
garbage is fed to the real binary). -/
namespace Props
open SM

theorem C15_accept_sound (j : JS.J) (h : accepts j = true) (rooms : Option (List Nat)) :
    ∃ parts courses, read j = .ok (parts, courses) ∧
      (toInst parts courses rooms).precomputeOk = true ∧
      (∀ c ∈ courses, c.numMin ≤ c.numMax) ∧ parts ≠ [] := by
  obtain ⟨parts, courses, hr, hv⟩ := accepts_iff.1 h
  simp only [validate, Bool.and_eq_true, List.all_eq_true, decide_eq_true_eq, Bool.not_eq_true',
    List.isEmpty_eq_false_iff] at hv
  obtain ⟨⟨h1, h2⟩, h3⟩ := hv
  refine ⟨parts, courses, hr, ?_, fun c hc => (h2 c hc).2, h3⟩
  simp only [N2.Inst.precomputeOk, toInst, N2.Inst.P, N2.Inst.C, List.all_map, Bool.and_eq_true,
    List.all_eq_true, Function.comp_apply, decide_eq_true_eq, List.length_map]
  exact ⟨fun c hc i hi => (h2 c hc).1 i hi, fun p hp ch hch => h1 p hp ch hch⟩

/-- a document without a `participants` or `courses` member is refused -/
theorem C15_missing_member (j : JS.J) (h : j.get "participants" = none ∨ j.get "courses" = none) :
    accepts j = false := by
  refine Bool.eq_false_iff.2 fun hacc => ?_
  obtain ⟨_, _, hr, -⟩ := accepts_iff.1 hacc
  obtain ⟨_, _, hp, hc, -⟩ := read_ok_iff.1 hr
  rcases h with h | h
  · rw [h] at hp; cases hp
  · rw [h] at hc; cases hc

/-! The two room inputs (`--rooms`, `--rooms-file`): `RI.parseRoomsStr` (main.rs `parse_rooms`) and `RI.kindsOf` (io/rooms.rs `read` from the JSON value
on) either refuse the whole input or deliver one entry per item, each within `usize`; a single bad
item refuses everything (no item is silently dropped or defaulted). -/

/-- an accepted item is an optional `+` followed by at least one character, all of them ASCII digits -/
theorem parseUsize_shape (cs : List Char) (n : Nat) (h : RI.parseUsizeL cs = some n) :
    ∃ ds, (cs = ds ∨ cs = '+' :: ds) ∧ ds ≠ [] ∧ (∀ c ∈ ds, c.isDigit = true) ∧ n = RI.digitsNat ds := by
  obtain ⟨ds, hcs, hd⟩ := RI.parseUsizeL_some h
  obtain ⟨h1, h2, h3, -⟩ := RI.digitsVal_some hd
  exact ⟨ds, hcs, h1, h2, h3⟩

theorem parseUsize_empty : RI.parseUsizeL [] = none := by decide +kernel

/-- `--rooms`: accepted ⇒ one room per comma-separated item, each the value of that item and within
    `usize`; any item that is not a number refuses the whole option -/
theorem C15_rooms_str (s : String) (l : List Nat) (h : RI.parseRoomsStr s = some l) :
    l.length = (RI.splitComma s.toList).length ∧
    (∀ i (h1 : i < (RI.splitComma s.toList).length) (h2 : i < l.length),
        RI.parseUsizeL (RI.splitComma s.toList)[i] = some l[i]) ∧
    ∀ n ∈ l, n ≤ JS.J.U64_MAX := by
  have hm := RI.mapOpt_eq_some_iff.1 h
  obtain ⟨hl, hi⟩ := List.map_eq_map_iff_getElem.1 hm
  refine ⟨hl, hi, fun n hn => ?_⟩
  obtain ⟨x, -, hx⟩ := List.mem_map.1 (hm ▸ List.mem_map_of_mem hn)
  obtain ⟨ds, -, hd⟩ := RI.parseUsizeL_some hx
  exact (RI.digitsVal_some hd).2.2.2

theorem C15_rooms_str_refuse (s : String) (x : List Char) (hx : x ∈ RI.splitComma s.toList)
    (hbad : RI.parseUsizeL x = none) : RI.parseRoomsStr s = none :=
  RI.mapOpt_none_of_bad hx hbad

/-- the pieces contain no comma and joining them with commas gives the text back: nothing is lost
    or merged by the split -/
theorem splitComma_spec : ∀ cs : List Char,
    (∀ x ∈ RI.splitComma cs, ',' ∉ x) ∧ cs = List.intercalate [','] (RI.splitComma cs) ∧ RI.splitComma cs ≠ []
  | [] => by simp [RI.splitComma, List.intercalate]
  | c :: cs => by
    obtain ⟨h1, h2, h3⟩ := splitComma_spec cs
    unfold RI.splitComma
    split
    · rename_i he; exact absurd he h3
    · rename_i x xs he
      rw [he] at h1 h2
      obtain ⟨hx, hxs⟩ := List.forall_mem_cons.1 h1
      by_cases hc : c = ','
      · simp only [hc, if_true]
        refine ⟨List.forall_mem_cons.2 ⟨List.not_mem_nil, h1⟩, ?_, by simp⟩
        rw [h2]
        cases xs <;> simp [List.intercalate, List.intersperse]
      · simp only [hc, if_false]
        refine ⟨List.forall_mem_cons.2
          ⟨fun hm => (List.mem_cons.1 hm).elim (fun h => hc h.symm) hx, hxs⟩, ?_, by simp⟩
        rw [h2]
        cases xs <;> simp [List.intercalate, List.intersperse]

/-- `--rooms-file`: accepted ⇒ the document is an array and there is one kind per element, each the
    reading of that element; one unreadable element refuses the whole file -/
theorem C15_rooms_file (j : JS.J) (ks : List RM.Kind) (h : RI.kindsOf j = some ks) :
    ∃ l, j = .arr l ∧ ks.length = l.length ∧
      ∀ i (h1 : i < l.length) (h2 : i < ks.length), RI.kindOf l[i] = some ks[i] := by
  unfold RI.kindsOf at h
  split at h
  · exact ⟨_, rfl, List.map_eq_map_iff_getElem.1 (RI.mapOpt_eq_some_iff.1 h)⟩
  · cases h

theorem C15_rooms_file_refuse (l : List JS.J) (x : JS.J) (hx : x ∈ l) (hbad : RI.kindOf x = none) :
    RI.kindsOf (.arr l) = none :=
  RI.mapOpt_none_of_bad hx hbad

/-- a kind that is read has both numbers within `usize` -/
theorem C15_rooms_kind (j : JS.J) (k : RM.Kind) (h : RI.kindOf j = some k) :
    k.capacity ≤ JS.J.U64_MAX ∧ k.quantity ≤ JS.J.U64_MAX := by
  unfold RI.kindOf at h
  -- the object form and the sequence form; every other shape is refused
  repeat' split at h
  all_goals cases h
  · rename_i hc hq
    obtain ⟨_, -, hv⟩ := Option.bind_eq_some_iff.1 hc
    obtain ⟨_, -, hw⟩ := Option.bind_eq_some_iff.1 hq
    exact ⟨(RI.asUsize_some hv).2, (RI.asUsize_some hw).2⟩
  · rename_i hc hq
    exact ⟨(RI.asUsize_some hc).2, (RI.asUsize_some hq).2⟩

example : RI.parseRoomsL "10,+5,007".toList = some [10, 5, 7] := by decide +kernel
example : RI.parseRoomsL ['1', '0', ',', ' ', '5'] = none := by decide +kernel
example : RI.parseRoomsL ['1', '0', ',', ',', '5'] = none := by decide +kernel
example : RI.parseRoomsL [] = none := by decide +kernel

end Props
