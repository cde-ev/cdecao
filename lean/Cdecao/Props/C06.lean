import Cdecao.Proofs.NodeRoom
import Cdecao.Proofs.NodeEng
import Cdecao.Proofs.SpecExec
/-! # C06 — room limits are respected by every reported solution -/
namespace Props
open N2 RG

/-- node level: a `Feasible` verdict under a room list means that, rank by rank, the descending
    effective sizes fit the descending (zero-padded, truncated) room list. Holds for every `R.eff`. -/
theorem C06_node (I : Inst) (R : RoomFns) (nd : Node) (al : List (Option Nat)) (sc : Nat) (rooms : List Nat)
    (hr : I.roomSizes = some rooms) (h : runNodeS I R nd = .ok (.feasible al sc)) :
    ∃ a : Nat → Option Nat, al = (List.range I.P).map a ∧
      ∀ s r, (s, r) ∈ (sortedDesc ((effSizes I R a).map (·.2))).zip rooms → s ≤ r :=
  N2.C06_node I R nd al sc rooms hr h

/-- lifted to the parallel search: the incumbent under any thread count and schedule -/
theorem C06 (I : Inst) (R : RoomFns) (rooms : List Nat) (hr : I.roomSizes = some rooms) (top T : Nat) :
    letI := solverOf I R
    ∀ c : Eng3.Cfg Node (List (Option Nat)),
      Eng3.Reach rootNode top T c → ∀ al, c.best = some al →
      ∃ a : Nat → Option Nat, al = (List.range I.P).map a ∧
        ∀ s r, (s, r) ∈ (sortedDesc ((effSizes I R a).map (·.2))).zip rooms → s ≤ r := by
  intro c hreach al hal
  obtain ⟨f, -, -, hrun⟩ := incumbent_node hreach hal
  exact N2.C06_node I R f al _ rooms hr hrun

/-- C06 in the form the check evaluates: `roomOKb` sorts the effective sizes and the given rooms in
    descending order and compares them rank by rank, missing rooms counting as size 0 -/
theorem C06_exec (I : Inst) (R : RoomFns) (rooms padded : List Nat) (hr : I.rooms = some rooms)
    (hp : I.roomSizes = some padded) (top T : Nat) :
    letI := solverOf I R
    ∀ c : Eng3.Cfg Node (List (Option Nat)),
      Eng3.Reach rootNode top T c → ∀ al, c.best = some al →
      ∃ a : Nat → Option Nat, al = (List.range I.P).map a ∧ RSpec.roomOKb I R a rooms = true := by
  intro c hreach al hal
  obtain ⟨a, h1, h2⟩ := C06 I R padded hp top T c hreach al hal
  exact ⟨a, h1, (roomOKb_iff I R a rooms padded hr hp).2 h2⟩

end Props
