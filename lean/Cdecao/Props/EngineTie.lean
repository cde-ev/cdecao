import Cdecao.Engine.SyncTie
/-! The synchronisation skeleton of bab.rs, re-extracted from the source on every run, is the one
    the engine model was written against (see Engine/SyncTie.lean). Part of the obligations of
    every property whose theorem is about the engine model (C01–C04, C06, C08–C10, C17, C19; the
    list is in bin/config.py). -/
namespace Props

theorem engine_sync_tie :
    Const.BAB_SHARED_FIELDS = Eng3.sharedFields ∧ Const.BAB_SYNC_IMPORTS = Eng3.syncImports ∧
    Const.BAB_SYNC_OPS = Eng3.syncOps ∧ Const.BAB_SYNC_OTHER = [] ∧ Const.BAB_SHARED_TYPES = Eng3.sharedTypes :=
  Eng3.sync_tie

/-- `caobab::solve` hands the engine exactly `run_bab_node` on the precomputed problem (see
    Engine/SyncTie.lean) -/
theorem solve_wiring_tie : Const.CAOBAB_SOLVE_WIRING = Eng3.solveWiring := rfl

end Props
