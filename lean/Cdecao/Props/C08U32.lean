import Cdecao.Proofs.SumU32
/-! # C08 (u32 half) — `combined_quality` / `get_quality` sum the external penalties in u32
    (`iter().sum::<u32>() as usize`, wrapping in release builds). Below 2^32 the code's figures are
    the `Nat` figures of the model; beyond the bound they differ. -/
namespace Props
open N2

/-- the wrapping u32 sum is the exact sum as long as the exact sum fits in a u32 -/
theorem C08_sumU32_exact (l : List Nat) (h : l.sum < 2^32) : QM.sumU32 l = l.sum := by
  have := QM.foldl_u32_exact l 0 (by omega)
  simpa [QM.sumU32] using this

/-- `combined_quality` as the code computes it equals the model's `QM.combined` under the bound -/
theorem C08_combined_u32 (I : Inst) (score extInstr : Nat) (extPen : List Nat)
    (h : extPen.sum < 2^32) :
    QM.combinedU32 I score extInstr extPen = QM.combined I score extInstr extPen := by
  simp [QM.combinedU32, QM.combined, QM.INSTRUCTOR_SCORE, C08_sumU32_exact extPen h]

/-- `get_quality` as the code computes it equals the model's `QM.getQuality` under the bound -/
theorem C08_getQuality_u32 (q : Nat × List Nat) (h : q.2.sum < 2^32) :
    QM.getQualityU32 q = QM.getQuality q := by
  simp [QM.getQualityU32, QM.getQuality, C08_sumU32_exact q.2 h]

/-- beyond the bound the code's sum differs from the exact sum: two ignored attendees with the
    fall-back penalty `2^32 - 1` -/
theorem C08_sumU32_wraps :
    QM.sumU32 [2^32 - 1, 2^32 - 1] = 2^32 - 2 ∧ [2^32 - 1, 2^32 - 1].sum = 2^33 - 2 := by
  decide

/-- a sufficient condition: every penalty at most `b` and `length * b` below 2^32 -/
theorem C08_sumU32_exact_of_bound (l : List Nat) (b : Nat) (hb : ∀ x ∈ l, x ≤ b)
    (h : l.length * b < 2^32) : QM.sumU32 l = l.sum :=
  C08_sumU32_exact l (Nat.lt_of_le_of_lt (QM.sum_le_length_mul l b hb) h)

end Props
