import Cdecao.Proofs.HungFinal
import Cdecao.Proofs.HungTotal
import Cdecao.Proofs.SpecExec
import Cdecao.Proofs.HungBounds
/-! # C07 — the matching routine returns a maximum-weight constrained perfect matching

Model: `H2.run` (hungarian.rs, same iteration, same tie-breaking). `probOf I` is the bipartite
problem of the non-skipped rows `X` and columns `Y` with `allowed x y = ¬(dummy x ∧ mandatory y)`. -/
namespace Props
open H2 Finset

/-- partial correctness and optimality: on a square selection, whatever `run` returns is a
    constrained perfect matching, the returned score is its total weight, and no constrained
    perfect matching weighs more. All sizes, all integer weights, all masks. -/
theorem C07_partial (I : Inp) (hsq : #(probOf I).X = #(probOf I).Y) (mm : Vec Nat) (sc : Int)
    (h : run I = some (mm, sc)) :
    Perfect (probOf I) mm.get ∧ sc = weight (probOf I) mm.get ∧
    ∀ σ', Perfect (probOf I) σ' → weight (probOf I) σ' ≤ sc :=
  hung_partial I hsq mm sc h

/-- totality: whenever the live rows can be matched into the live columns through allowed pairs (`Admits`; a
    constrained perfect matching when the selection is square), the routine returns
    (no `unwrap` on `None`, no fuel exhaustion) -/
theorem C07_total (I : Inp) (τ : Nat → Nat) (ha : Admits I τ) : ∃ r, run I = some r :=
  hung_total I τ ha

/-- in the form the check evaluates (`perfectb`, list-sum `weight`) on the real routine's output -/
theorem C07_exec (I : Inp) (hsq : #(probOf I).X = #(probOf I).Y) (mm : Vec Nat) (sc : Int)
    (h : run I = some (mm, sc)) :
    HSpec.perfectb I mm.get = true ∧ sc = HSpec.weight I mm.get ∧
    ∀ σ', HSpec.perfectb I σ' = true → HSpec.weight I σ' ≤ sc := by
  simp only [HSpec.perfectb_iff, HSpec.weight_eq]
  exact hung_partial I hsq mm sc h

/-! ## `i32` arithmetic (hungarian.rs: `type Label = i32`, `LARGE_LABEL = i32::MAX`)

`H2B.run B` (Cdecao/Model/HungarianI32.lean) is the same routine with every arithmetic result checked
against `[-B, B)` (`B = 2^31` for `i32`) and the scan failing on a delta equal to the sentinel `B - 1`:
it returns `none` as soon as the Rust routine would overflow (or confuse a delta with `LARGE_LABEL`). -/

/-- no overflow: for weights in `[0, W]` and `(2·ny + 2)·W + 1 < B` the range-checked routine returns
    whatever the unbounded model returns -/
theorem C07_i32 (I : Inp) (W B : Int) (r : Vec Nat × Int)
    (hw : ∀ x y, 0 ≤ I.wt x y ∧ I.wt x y ≤ W) (hB : (2 * (I.ny : Int) + 2) * W + 1 < B)
    (h : run I = some r) : H2B.run B I = some r :=
  H2B.run_sim I W B hw hB r h

/-- the same with the bound stated in `n = max nx ny` (the side condition `1 < B` only matters for `W = 0`) -/
theorem C07_i32_max (I : Inp) (W B : Int) (r : Vec Nat × Int)
    (hw : ∀ x y, 0 ≤ I.wt x y ∧ I.wt x y ≤ W)
    (hB : (4 * ((max I.nx I.ny : Nat) : Int) + 4) * W < B) (hB1 : 1 < B)
    (h : run I = some r) : H2B.run B I = some r := by
  apply H2B.run_sim I W B hw ?_ r h
  have hW := H2B.wt_bound_nonneg hw
  have hny : (I.ny : Int) ≤ ((max I.nx I.ny : Nat) : Int) := Int.ofNat_le.2 (Nat.le_max_right _ _)
  -- with `t = (2·ny + 2)·W ≥ 0`: `2·t < B` and `1 < B` give `t + 1 < B`
  have h0 : 0 ≤ (2 * (I.ny : Int) + 2) * W := Int.mul_nonneg (by omega) hW
  have h2 : 2 * ((2 * (I.ny : Int) + 2) * W) ≤ (4 * ((max I.nx I.ny : Nat) : Int) + 4) * W := by
    rw [← Int.mul_assoc]
    exact Int.mul_le_mul_of_nonneg_right (by omega) hW
  omega

/-- converse, for every bound and every input: the checked routine only ever fails more often -/
theorem C07_i32_conv (I : Inp) (B : Int) (r : Vec Nat × Int) (h : H2B.run B I = some r) : run I = some r :=
  H2B.run_conv B I r h

/-- under the bound both routines agree, also in failing -/
theorem C07_i32_eq (I : Inp) (W B : Int) (hw : ∀ x y, 0 ≤ I.wt x y ∧ I.wt x y ≤ W)
    (hB : (2 * (I.ny : Int) + 2) * W + 1 < B) : H2B.run B I = run I :=
  H2B.run_eq I W B hw hB

/-- caobab: weights are at most `WEIGHT_OFFSET = 50000`; for up to 10 000 rows/columns (course places)
    the `i32` routine agrees with the unbounded model -/
theorem C07_i32_caobab (I : Inp) (hn : max I.nx I.ny ≤ 10000)
    (hw : ∀ x y, 0 ≤ I.wt x y ∧ I.wt x y ≤ 50000) : H2B.run (2^31) I = run I := by
  apply H2B.run_eq I 50000 (2^31) hw
  have : I.ny ≤ 10000 := Nat.le_trans (Nat.le_max_right _ _) hn
  omega

/-- the condition of `C07_i32_max` for caobab's numbers -/
example (n : Nat) (hn : n ≤ 10000) : (4 * (n : Int) + 4) * 50000 < 2^31 := by omega

/-- C07 for the `i32` routine, partial correctness (no hypothesis on the weights: whatever the checked
    routine returns is right) -/
theorem C07_i32_partial (I : Inp) (B : Int) (hsq : #(probOf I).X = #(probOf I).Y) (mm : Vec Nat) (sc : Int)
    (h : H2B.run B I = some (mm, sc)) :
    Perfect (probOf I) mm.get ∧ sc = weight (probOf I) mm.get ∧
    ∀ σ', Perfect (probOf I) σ' → weight (probOf I) σ' ≤ sc :=
  hung_partial I hsq mm sc (H2B.run_conv B I _ h)

/-- C07 for the `i32` routine, totality: with `Admits` and the bound, it returns -/
theorem C07_i32_total (I : Inp) (W B : Int) (τ : Nat → Nat) (ha : Admits I τ)
    (hw : ∀ x y, 0 ≤ I.wt x y ∧ I.wt x y ≤ W) (hB : (2 * (I.ny : Int) + 2) * W + 1 < B) :
    ∃ r, H2B.run B I = some r := by
  obtain ⟨r, hr⟩ := hung_total I τ ha
  exact ⟨r, H2B.run_sim I W B hw hB r hr⟩

/-- non-vacuity: `H2B.exI` (3×3, dummy row, mandatory column, needs label updates) satisfies the hypotheses
    of `C07_i32` with `W = 8`, `B = 2^31`; the `i32` routine returns the matching `[0, 2, 1]` with score 19;
    with `B = 19` it fails -/
example : ∃ r, run H2B.exI = some r ∧ H2B.run (2^31) H2B.exI = some r := by
  obtain ⟨r, hr, _⟩ := Option.map_eq_some_iff.1 H2B.exI_run
  exact ⟨r, hr, C07_i32 H2B.exI 8 (2^31) r H2B.exI_wt (by decide) hr⟩
example : (H2B.run (2^31) H2B.exI).map (fun r => (r.1.a, r.2)) = some (#[0, 2, 1], 19) := H2B.exI_run32
example : (H2B.run 19 H2B.exI).isNone = true := H2B.exI_run19

#print axioms C07_i32
#print axioms C07_i32_max
#print axioms C07_i32_conv
#print axioms C07_i32_eq
#print axioms C07_i32_caobab
#print axioms C07_i32_partial
#print axioms C07_i32_total

end Props
