/-! C12: the registration loop of io/cdedb.rs:222-293 on a typed view of the registrations.
    The running participant index advances only for kept registrations, so every stored instructor
    index points at the registration that instructs that course. Core only. -/
namespace RD

structure Reg where
  id : Nat
  isParticipant : Bool            -- status 2 in the part of the selected track
  assigned : Option Nat           -- index of a kept course, if assigned to one
  instructed : Option Nat         -- index of a kept course, if instructing one
  choices : List (Nat × Nat)      -- (kept course index, penalty = rank in the original list)

structure Part where
  index : Nat
  dbid : Nat
  choices : List (Nat × Nat)

structure St where
  i : Nat
  parts : List Part                      -- in order
  instr : List (Nat × Nat)               -- (course index, participant index) in push order
  invisible : List (Nat × Bool)          -- (course index, as instructor?) for ignored registrations

def ignored (ignoreAssigned : Bool) (r : Reg) : Bool := ignoreAssigned && r.assigned.isSome
def keep (ignoreAssigned : Bool) (r : Reg) : Bool :=
  r.isParticipant && !ignored ignoreAssigned r && !(r.choices.isEmpty && r.instructed.isNone)

def step (ia : Bool) (s : St) (r : Reg) : St :=
  if !r.isParticipant then s
  else if ignored ia r then
    match r.assigned with
    | some c => { s with invisible := s.invisible ++ [(c, decide (r.instructed = some c))] }
    | none => s
  else if r.choices.isEmpty && r.instructed.isNone then s
  else
    let instr := match r.instructed with
      | some c => s.instr ++ [(c, s.i)]
      | none => s.instr
    { s with i := s.i + 1, parts := s.parts ++ [{ index := s.i, dbid := r.id, choices := r.choices }], instr := instr }

def read (ia : Bool) (regs : List Reg) : St := regs.foldl (step ia) { i := 0, parts := [], instr := [], invisible := [] }

def kept (ia : Bool) (regs : List Reg) : List Reg := regs.filter (keep ia)

/-- one iteration, read off `keep`: a kept registration becomes the next participant and, if it instructs
    a course, the next instructor entry; any other leaves counter, participants and instructor entries alone -/
theorem step_eq (ia : Bool) (s : St) (r : Reg) :
    (step ia s r).i = s.i + (if keep ia r then 1 else 0) ∧
    (step ia s r).parts = s.parts ++
      (if keep ia r then [{ index := s.i, dbid := r.id, choices := r.choices }] else []) ∧
    (step ia s r).instr = s.instr ++ (if keep ia r then (r.instructed.map (·, s.i)).toList else []) := by
  unfold step keep
  cases r.isParticipant with
  | false => simp
  | true =>
    cases ignored ia r with
    | true => cases r.assigned <;> simp
    | false =>
      cases (r.choices.isEmpty && r.instructed.isNone) with
      | true => simp
      | false => cases r.instructed <;> simp

/-- loop invariant, stated against the list of kept registrations processed so far -/
structure Inv (ia : Bool) (done : List Reg) (s : St) : Prop where
  idx : s.i = (kept ia done).length
  parts : s.parts = (kept ia done).zipIdx.map (fun (r, k) => { index := k, dbid := r.id, choices := r.choices })
  instr : ∀ c k, (c, k) ∈ s.instr ↔ ∃ r, (kept ia done)[k]? = some r ∧ r.instructed = some c

theorem foldl_ind {σ α : Type} {f : σ → α → σ} {R : List α → σ → Prop}
    (hstep : ∀ done a s, R done s → R (done ++ [a]) (f s a)) :
    ∀ (l : List α) {done : List α} {s : σ}, R done s → R (done ++ l) (l.foldl f s)
  | [], _, _, h => by simpa using h
  | a :: l, done, s, h => by simpa using foldl_ind hstep l (hstep done a s h)

theorem kept_concat (ia : Bool) (done : List Reg) (r : Reg) :
    kept ia (done ++ [r]) = kept ia done ++ (if keep ia r then [r] else []) := by
  simp only [kept, List.filter_append, List.filter_cons, List.filter_nil]

/-- the loop state in closed form: counter, participants and instructor entries are read off the kept
    registrations, each under its position among them -/
theorem read_eq (ia : Bool) (regs : List Reg) :
    (read ia regs).i = (kept ia regs).length ∧
    (read ia regs).parts =
      (kept ia regs).zipIdx.map (fun (r, k) => { index := k, dbid := r.id, choices := r.choices }) ∧
    (read ia regs).instr = (kept ia regs).zipIdx.filterMap (fun x => x.1.instructed.map (·, x.2)) := by
  refine foldl_ind (f := step ia) (R := fun done s => s.i = (kept ia done).length ∧
    s.parts = (kept ia done).zipIdx.map (fun (r, k) => { index := k, dbid := r.id, choices := r.choices }) ∧
    s.instr = (kept ia done).zipIdx.filterMap (fun x => x.1.instructed.map (·, x.2)))
    (fun done r s ⟨h1, h2, h3⟩ => ?_) regs (done := []) ⟨rfl, rfl, rfl⟩
  obtain ⟨a, b, c⟩ := step_eq ia s r
  rw [kept_concat, a, b, c, h1, h2, h3]
  cases keep ia r with
  | false => simp
  | true => cases hi : r.instructed <;> simp [List.zipIdx_append, hi]

theorem read_spec (ia : Bool) (regs : List Reg) : Inv ia regs (read ia regs) := by
  obtain ⟨h1, h2, h3⟩ := read_eq ia regs
  refine ⟨h1, h2, fun c k => ?_⟩
  rw [h3]
  simp only [List.mem_filterMap, List.mem_zipIdx_iff_getElem?, Option.map_eq_some_iff, Prod.mk.injEq,
    Prod.exists]
  exact ⟨fun ⟨r, j, hr, c', hc, e1, e2⟩ => ⟨r, e2 ▸ hr, e1 ▸ hc⟩,
    fun ⟨r, hr, hc⟩ => ⟨r, k, hr, c, hc, rfl, rfl⟩⟩

theorem zipIdx_sorted {α : Type} (l : List α) (k : Nat) :
    (l.zipIdx k).Pairwise (fun a b => a.2 < b.2) := by
  have := List.pairwise_lt_range' (s := k) (n := l.length)
  rwa [← List.zipIdx_map_snd k l, List.pairwise_map] at this

theorem read_instr_sorted (ia : Bool) (regs : List Reg) :
    (read ia regs).instr.Pairwise (fun a b => a.2 < b.2) := by
  rw [(read_eq ia regs).2.2]
  refine (zipIdx_sorted _ 0).filterMap _ fun a a' haa b hb b' hb' => ?_
  obtain ⟨_, _, rfl⟩ := Option.map_eq_some_iff.1 hb
  obtain ⟨_, _, rfl⟩ := Option.map_eq_some_iff.1 hb'
  exact haa

#print axioms read_spec
end RD
