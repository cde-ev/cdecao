/-! C18: every room listed by `calculate_possible_course_room_sizes` (io/rooms.rs:91-126) is usable —
    membership characterisation of the double loop (`mem_possible`) and the swap argument
    (`swap_alloc`). Core only. -/
namespace RS

def pushAt : List (List Nat) → Nat → Nat → List (List Nat)
  | [], _, _ => []
  | l :: ls, 0, r => (l ++ [r]) :: ls
  | l :: ls, k+1, r => l :: pushAt ls k r

def slot (res : List (List Nat)) (x : Nat) : List Nat := res.getD x []

theorem pushAt_eq_modify (res : List (List Nat)) (k r : Nat) : pushAt res k r = res.modify k (· ++ [r]) := by
  induction res generalizing k with
  | nil => simp [pushAt]
  | cons l ls ih => cases k with
    | zero => rfl
    | succ k => rw [pushAt, ih, List.modify_succ_cons]

theorem length_pushAt (res : List (List Nat)) (k r : Nat) : (pushAt res k r).length = res.length := by
  rw [pushAt_eq_modify, List.length_modify]

theorem mem_slot_pushAt (res : List (List Nat)) (k r x v : Nat) :
    v ∈ slot (pushAt res k r) x ↔ v ∈ slot res x ∨ x < res.length ∧ x = k ∧ v = r := by
  rw [slot, slot, pushAt_eq_modify, List.getD_eq_getElem?_getD, List.getD_eq_getElem?_getD,
    List.getElem?_modify]
  by_cases hx : x < res.length
  · by_cases hk : k = x
    · simp [hx, hk, eq_comm]
    · simp [hx, hk, Ne.symm hk]
  · simp [hx]

/-- a loop whose body only appends to slots: what slot `x` holds afterwards -/
theorem mem_slot_foldl {α : Type} {step : List (List Nat) → α → List (List Nat)}
    {P : α → Nat → Nat → Prop}
    (h : ∀ res a, (step res a).length = res.length ∧ ∀ x v,
      (v ∈ slot (step res a) x ↔ v ∈ slot res x ∨ x < res.length ∧ P a x v))
    (l : List α) (res : List (List Nat)) :
    (l.foldl step res).length = res.length ∧ ∀ x v,
      (v ∈ slot (l.foldl step res) x ↔ v ∈ slot res x ∨ x < res.length ∧ ∃ a ∈ l, P a x v) := by
  induction l generalizing res with
  | nil => simp
  | cons a l ih =>
    obtain ⟨h1, h2⟩ := ih (step res a)
    refine ⟨h1.trans (h res a).1, fun x v => ?_⟩
    rw [List.foldl_cons, h2, (h res a).2, (h res a).1]
    simp only [List.mem_cons, exists_eq_or_imp, or_assoc, and_or_left]

/-- sizes `S` by rank (descending), rooms `R` (descending); reads outside are 0 -/
structure In where
  S : List Nat
  R : List Nat
def In.num (I : In) : Nat := I.S.length
def In.s (I : In) (i : Nat) : Nat := I.S.getD i 0
def In.r (I : In) (j : Nat) : Nat := I.R.getD j 0

/-- the `j`s visited by the inner loop for rank `i` (up to the `break`) -/
def js (I : In) (i : Nat) : List Nat :=
  (List.range' i (I.R.length - i)).takeWhile (fun j => decide (I.s i ≤ I.r j))

theorem mem_js {I : In} {i j : Nat} (h : j ∈ js I i) : i ≤ j ∧ j < I.R.length ∧ I.s i ≤ I.r j := by
  have h1 := List.all_eq_true.mp List.all_takeWhile j h
  have h2 := (List.takeWhile_sublist _).subset h
  simp only [List.mem_range'_1] at h2
  simp only [decide_eq_true_eq] at h1
  exact ⟨h2.1, by omega, h1⟩

/-- the inner loop starts at the course's own rank -/
theorem self_mem_js {I : In} {x : Nat} (hL : x < I.R.length) (hfit : I.s x ≤ I.r x) : x ∈ js I x := by
  obtain ⟨m, hm⟩ := Nat.exists_eq_add_one_of_ne_zero (Nat.sub_ne_zero_of_lt hL)
  rw [js, hm, List.range'_succ, List.takeWhile_cons, if_pos (decide_eq_true hfit)]
  exact List.mem_cons_self

def innerStep (I : In) (i : Nat) (res : List (List Nat)) (j : Nat) : List (List Nat) :=
  let res := pushAt res i (I.r j)
  if j < I.num then pushAt res j (I.r i) else res

def inner (I : In) (res : List (List Nat)) (i : Nat) : List (List Nat) :=
  (js I i).foldl (innerStep I i) res

def possible (I : In) : List (List Nat) :=
  (List.range I.num).foldl (inner I) (List.replicate I.num [])

/-- what one visit `(i, j)` of the double loop pushes where -/
def Pushes (I : In) (i j x v : Nat) : Prop := x = i ∧ v = I.r j ∨ x = j ∧ j < I.num ∧ v = I.r i

theorem innerStep_spec (I : In) (i : Nat) (res : List (List Nat)) (j : Nat) :
    (innerStep I i res j).length = res.length ∧ ∀ x v,
      (v ∈ slot (innerStep I i res j) x ↔ v ∈ slot res x ∨ x < res.length ∧ Pushes I i j x v) := by
  unfold innerStep Pushes
  by_cases hj : j < I.num
  · simp only [hj, if_true, length_pushAt, mem_slot_pushAt, true_and, or_assoc, and_or_left, implies_true]
  · simp only [hj, if_false, length_pushAt, mem_slot_pushAt, false_and, and_false, or_false, true_and,
      implies_true]

theorem inner_spec (I : In) (res : List (List Nat)) (i : Nat) :
    (inner I res i).length = res.length ∧ ∀ x v,
      (v ∈ slot (inner I res i) x ↔ v ∈ slot res x ∨ x < res.length ∧ ∃ j ∈ js I i, Pushes I i j x v) :=
  mem_slot_foldl (innerStep_spec I i) _ res

theorem mem_possible (I : In) (x v : Nat) :
    v ∈ slot (possible I) x ↔ x < I.num ∧ ∃ i < I.num, ∃ j ∈ js I i, Pushes I i j x v := by
  have h0 : ¬ v ∈ slot (List.replicate I.num []) x := by
    simp only [slot, List.getD_eq_getElem?_getD, List.getElem?_replicate]
    split <;> simp
  rw [possible, (mem_slot_foldl (inner_spec I) _ _).2]
  simp only [h0, false_or, List.length_replicate, List.mem_range]

def Origin (I : In) (x v : Nat) : Prop :=
  (∃ j, j ∈ js I x ∧ v = I.r j) ∨ (∃ i, x ∈ js I i ∧ x < I.num ∧ v = I.r i)

theorem possible_mem (I : In) (x v : Nat) (h : v ∈ slot (possible I) x) : Origin I x v := by
  obtain ⟨hx, i, _, j, hj, ⟨rfl, rfl⟩ | ⟨rfl, _, rfl⟩⟩ := (mem_possible I x v).mp h
  · exact Or.inl ⟨j, hj, rfl⟩
  · exact Or.inr ⟨i, hj, hx, rfl⟩

def Desc (l : List Nat) : Prop := ∀ i j, i ≤ j → j < l.length → l.getD j 0 ≤ l.getD i 0

def Feasible (I : In) : Prop := ∀ i, i < I.num → 0 < I.s i → i < I.R.length ∧ I.s i ≤ I.r i

/-- a complete allocation of distinct rooms (indices) to all courses that take place -/
structure Alloc (I : In) (f : Nat → Nat) : Prop where
  lt : ∀ i, i < I.num → 0 < I.s i → f i < I.R.length
  fits : ∀ i, i < I.num → 0 < I.s i → I.s i ≤ I.r (f i)
  inj : ∀ i1 i2, i1 < I.num → i2 < I.num → 0 < I.s i1 → 0 < I.s i2 → f i1 = f i2 → i1 = i2

def swap (a b : Nat) (i : Nat) : Nat := if i = a then b else if i = b then a else i

theorem swap_left (a b : Nat) : swap a b a = b := if_pos rfl

theorem swap_right (a b : Nat) : swap a b b = a := by
  unfold swap; split
  · next h => exact h
  · exact if_pos rfl

theorem swap_of_ne {a b i : Nat} (h1 : i ≠ a) (h2 : i ≠ b) : swap a b i = i := by
  rw [swap, if_neg h1, if_neg h2]

theorem swap_swap (a b i : Nat) : swap a b (swap a b i) = i := by
  by_cases h1 : i = a
  · rw [h1, swap_left, swap_right]
  · by_cases h2 : i = b
    · rw [h2, swap_right, swap_left]
    · rw [swap_of_ne h1 h2, swap_of_ne h1 h2]

theorem swap_inj {a b i1 i2 : Nat} (h : swap a b i1 = swap a b i2) : i1 = i2 := by
  rw [← swap_swap a b i1, h, swap_swap]

/-- exchanging the rooms of ranks `a ≤ b` in the rank-wise allocation, when course `a` also fits
    room `b` (course `b` fits the larger room `a` because the rooms are descending) -/
theorem swap_alloc (I : In) (hR : Desc I.R) (hF : Feasible I) (a b : Nat) (hab : a ≤ b) (hb : b < I.R.length)
    (hfit : I.s a ≤ I.r b) : Alloc I (swap a b) := by
  have key : ∀ i, i < I.num → 0 < I.s i → swap a b i < I.R.length ∧ I.s i ≤ I.r (swap a b i) := by
    intro i hi hs
    obtain ⟨h1, h2⟩ := hF i hi hs
    by_cases e1 : i = a
    · rw [e1, swap_left]; exact ⟨hb, hfit⟩
    · by_cases e2 : i = b
      · rw [e2, swap_right]
        exact ⟨Nat.lt_of_le_of_lt hab hb, Nat.le_trans (e2 ▸ h2) (hR a b hab hb)⟩
      · rw [swap_of_ne e1 e2]; exact ⟨h1, h2⟩
  exact ⟨fun i hi hs => (key i hi hs).1, fun i hi hs => (key i hi hs).2, fun _ _ _ _ _ _ h => swap_inj h⟩

theorem possible_sound (I : In) (hR : Desc I.R) (hF : Feasible I) (x v : Nat) (hx : x < I.num)
    (h : v ∈ slot (possible I) x) :
    I.s x ≤ v ∧ ∃ f, Alloc I f ∧ I.r (f x) = v := by
  rcases possible_mem I x v h with ⟨j, hj, rfl⟩ | ⟨i, hi, _, rfl⟩
  · obtain ⟨h1, h2, h3⟩ := mem_js hj
    exact ⟨h3, swap x j, swap_alloc I hR hF x j h1 h2 h3, by rw [swap_left]⟩
  · obtain ⟨h1, h2, h3⟩ := mem_js hi
    refine ⟨?_, swap i x, swap_alloc I hR hF i x h1 h2 h3, by rw [swap_right]⟩
    by_cases hs : 0 < I.s x
    · exact Nat.le_trans (hF x hx hs).2 (hR i x h1 h2)
    · omega

#print axioms possible_sound

theorem possible_nonempty (I : In) (hF : Feasible I) (x : Nat) (hx : x < I.num) (hs : 0 < I.s x) :
    I.r x ∈ slot (possible I) x :=
  (mem_possible I x _).mpr ⟨hx, x, hx, x, self_mem_js (hF x hx hs).1 (hF x hx hs).2, Or.inl ⟨rfl, rfl⟩⟩

#print axioms possible_nonempty
end RS
